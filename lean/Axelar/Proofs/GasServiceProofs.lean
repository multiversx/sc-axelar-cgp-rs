/-
  The gas service's dispatcher, characterised once: what a successful call can be.
-/
import Axelar.Model.GasService
import Axelar.Proofs.Basics
namespace Axelar.GasService
open Axelar Codec

variable {C : Crypto} {st : State} {ctx : Ctx} {ev func : String} {args : List Bytes} {out : Out}

theorem singleFungibleEsdt_eq_ok {tok : Bytes} {amt : Nat} :
    singleFungibleEsdt ctx = .ok (tok, amt) ↔ ctx.esdt = [(tok, 0, amt)] ∧ ctx.egld = 0 := by
  unfold singleFungibleEsdt
  split
  · rename_i he
    rw [ite_else_error_eq_ok, he]
    simp [and_comm]
  · rename_i hn
    exact ⟨nofun, fun h => absurd h.1 (hn _ _)⟩

theorem egldValue_eq_ok {v : Nat} : egldValue ctx = .ok v ↔ ctx.esdt = [] ∧ ctx.egld = v := by
  unfold egldValue
  rw [ite_else_error_eq_ok, List.isEmpty_iff, Except.ok.injEq]

/-- what an accepted token payment is: exactly one fungible ESDT, a non-zero amount, one event built from it -/
theorem payEsdt_eq_ok (h : payEsdt C st ctx ev args = .ok out) :
    ∃ sender chain addr payload refund tok amt,
      args = [sender, chain, addr, payload, refund] ∧ ctx.esdt = [(tok, 0, amt)] ∧ ctx.egld = 0 ∧
      0 < amt ∧ out.sends = [] ∧ out.st = st ∧
      out.events = [⟨ev, [sender, chain, addr], [gasPaidData (C.H payload) tok amt refund]⟩] := by
  revert h
  fun_cases payEsdt C st ctx ev args
  -- a result `.ok out` comes from the one successful branch
  all_goals
    intro h
    cases h
  next hs hr _ _ hpay hamt =>
    obtain ⟨_, rfl⟩ := topFixed_eq_some.mp hs
    obtain ⟨_, rfl⟩ := topFixed_eq_some.mp hr
    obtain ⟨hesdt, hegld⟩ := singleFungibleEsdt_eq_ok.mp hpay
    exact ⟨_, _, _, _, _, _, _, rfl, hesdt, hegld, Nat.pos_of_ne_zero hamt, rfl, rfl, rfl⟩

theorem payNative_eq_ok (h : payNative C st ctx ev args = .ok out) :
    ∃ sender chain addr payload refund,
      args = [sender, chain, addr, payload, refund] ∧ ctx.esdt = [] ∧ 0 < ctx.egld ∧
      out.sends = [] ∧ out.st = st ∧
      out.events = [⟨ev, [sender, chain, addr], [nativeGasPaidData (C.H payload) ctx.egld refund]⟩] := by
  revert h
  fun_cases payNative C st ctx ev args
  all_goals
    intro h
    cases h
  next hs hr _ hpay hamt =>
    obtain ⟨_, rfl⟩ := topFixed_eq_some.mp hs
    obtain ⟨_, rfl⟩ := topFixed_eq_some.mp hr
    obtain ⟨hesdt, rfl⟩ := egldValue_eq_ok.mp hpay
    exact ⟨_, _, _, _, _, rfl, hesdt, Nat.pos_of_ne_zero hamt, rfl, rfl, rfl⟩

/-- a payment only emits: storage and funds stay -/
theorem payEsdt_keeps (h : payEsdt C st ctx ev args = .ok out) : out.st = st ∧ out.sends = [] := by
  obtain ⟨_, _, _, _, _, _, _, -, -, -, -, hs, hst, -⟩ := payEsdt_eq_ok h
  exact ⟨hst, hs⟩

theorem payNative_keeps (h : payNative C st ctx ev args = .ok out) : out.st = st ∧ out.sends = [] := by
  obtain ⟨_, _, _, _, _, -, -, -, hs, hst, -⟩ := payNative_eq_ok h
  exact ⟨hst, hs⟩

/-- so does a top-up -/
theorem addEsdt_keeps (h : addEsdt st ctx ev args = .ok out) : out.st = st ∧ out.sends = [] := by
  revert h
  fun_cases addEsdt st ctx ev args
  all_goals
    intro h
    cases h
  exact ⟨rfl, rfl⟩

theorem addNative_keeps (h : addNative st ctx ev args = .ok out) : out.st = st ∧ out.sends = [] := by
  revert h
  fun_cases addNative st ctx ev args
  all_goals
    intro h
    cases h
  exact ⟨rfl, rfl⟩

theorem setGasCollector_eq_ok (h : setGasCollector st ctx args = .ok out) :
    ∃ c, args = [c] ∧ (ctx.caller = st.collector ∨ ctx.caller = ctx.owner) ∧
      out = { st := { collector := c } } := by
  revert h
  fun_cases setGasCollector st ctx args
  all_goals
    intro h
    cases h
  next hc hauth =>
    obtain ⟨_, rfl⟩ := topFixed_eq_some.mp hc
    exact ⟨_, rfl, by simpa using hauth, rfl⟩

/-- What a successful gas-service call can be: one of the three custody endpoints, or a call that leaves storage
    and funds alone (`hq`): one of the eight payment endpoints (two names for each of the four shapes; `ev` is the
    name of the event it announces), or one that says nothing (the view, the protocol's `upgradeContract`). -/
inductive CallOk (C : Crypto) (st : State) (ctx : Ctx) (func : String) (args : List Bytes) (out : Out) : Prop
  | collectFees (hf : func = "collectFees") (h : collectFees st ctx args = .ok out)
  | refund (hf : func = "refund") (h : refund st ctx args = .ok out)
  | setGasCollector (hf : func = "setGasCollector") (h : setGasCollector st ctx args = .ok out)
  | payEsdt {ev : String} (hf : func = "payGasForContractCall" ∨ func = "payGasForExpressCall")
      (hq : out.st = st ∧ out.sends = []) (h : payEsdt C st ctx ev args = .ok out)
  | payNative {ev : String} (hf : func = "payNativeGasForContractCall" ∨ func = "payNativeGasForExpressCall")
      (hq : out.st = st ∧ out.sends = []) (h : payNative C st ctx ev args = .ok out)
  | addEsdt {ev : String} (hf : func = "addGas" ∨ func = "addExpressGas")
      (hq : out.st = st ∧ out.sends = []) (h : addEsdt st ctx ev args = .ok out)
  | addNative {ev : String} (hf : func = "addNativeGas" ∨ func = "addNativeExpressGas")
      (hq : out.st = st ∧ out.sends = []) (h : addNative st ctx ev args = .ok out)
  | quiet (hq : out.st = st ∧ out.sends = []) (he : out.events = [])

theorem call_ok (h : call C st ctx func args = .ok out) : CallOk C st ctx func args out := by
  unfold call at h
  split at h
  · exact .payEsdt (.inl rfl) (payEsdt_keeps h) h
  · exact .payNative (.inl rfl) (payNative_keeps h) h
  · exact .payEsdt (.inr rfl) (payEsdt_keeps h) h
  · exact .payNative (.inr rfl) (payNative_keeps h) h
  · exact .addEsdt (.inl rfl) (addEsdt_keeps h) h
  · exact .addNative (.inl rfl) (addNative_keeps h) h
  · exact .addEsdt (.inr rfl) (addEsdt_keeps h) h
  · exact .addNative (.inr rfl) (addNative_keeps h) h
  · exact .collectFees rfl h
  · exact .refund rfl h
  · exact .setGasCollector rfl h
  · -- the `gas_collector` view
    obtain ⟨_, h⟩ := ite_error_eq_ok.mp h
    split at h
    · obtain ⟨_, h⟩ := ite_error_eq_ok.mp h
      cases h
      exact .quiet ⟨rfl, rfl⟩ rfl
    · cases h
  · -- `upgradeContract`: `upgrade()` is empty
    obtain ⟨_, h⟩ := ite_error_eq_ok.mp h
    obtain ⟨_, h⟩ := ite_error_eq_ok.mp h
    split at h
    · cases h
      exact .quiet ⟨rfl, rfl⟩ rfl
    · cases h
  · cases h

/-- only `collectFees` and `refund` send anything -/
theorem call_sends_nil (h : call C st ctx func args = .ok out) (hc : func ≠ "collectFees") (hr : func ≠ "refund") :
    out.sends = [] := by
  cases call_ok h with
  | collectFees hf => exact absurd hf hc
  | refund hf => exact absurd hf hr
  | setGasCollector _ hg =>
    obtain ⟨_, _, _, rfl⟩ := setGasCollector_eq_ok hg
    rfl
  | payEsdt _ hq | payNative _ hq | addEsdt _ hq | addNative _ hq | quiet hq => exact hq.2

theorem call_payNativeGasForContractCall :
    call C st ctx "payNativeGasForContractCall" args =
      payNative C st ctx "native_gas_paid_for_contract_call_event" args := by
  unfold call
  simp only

end Axelar.GasService
