/-
  The guards of the endpoints.  `FP m`: the flow `m` fails whenever the service is paused (one
  structural instance per pausable flow).  `Guard cx func s`: the three guards the properties
  C13 and C20 speak of — the pause flag for the pausable endpoints, the owner for the four owner
  operations, the operator for `setFlowLimits`.
-/
import Axelar.Proofs.ItsFrame
namespace Axelar.ItsW
open Axelar Codec Its World

/-- `m` fails (the transaction is rolled back) whenever the service is paused -/
class FP {α : Type} (m : M α) : Prop where
  h : ∀ t, t.w.its.paused = true → m t = none

instance fp_fail {α : Type} : FP (fail : M α) := ⟨fun _ _ => rfl⟩

instance fp_requireNotPaused : FP requireNotPaused := ⟨fun _ h => requireNotPaused_paused h⟩

/-- tried first: when the left part already fails under pause there is nothing to search for -/
instance (priority := high) fp_bind_left {α β : Type} {m : M α} {f : α → M β} [hm : FP m] : FP (m >>= f) :=
  ⟨fun t h => by simp only [run_bind, hm.h t h]⟩

/-- what runs before the pause check — sub-calls, a consumed approval — does not touch the flag -/
instance fp_bind_core {α β : Type} {m : M α} {f : α → M β} [hm : Frame (onIts Core) m] [hf : ∀ a, FP (f a)] :
    FP (m >>= f) := by
  refine ⟨fun t h => ?_⟩
  simp only [run_bind]
  cases hx : m t with
  | none => rfl
  | some x => exact (hf x.1).h x.2 ((hm.h hx).paused.trans h)

instance fp_ite {α : Type} {c : Prop} [Decidable c] {a b : M α} [ha : FP a] [hb : FP b] : FP (if c then a else b) := by
  split <;> assumption

/-- through pattern matches and conditionals; binds and leaves by instance -/
macro "fp" : tactic => `(tactic| repeat' (first | exact inferInstance | split))

instance fp_execute (C : Crypto) (cx : ICtx) (a b c d : Bytes) : FP (execute C cx a b c d) := by
  unfold execute; fp
instance fp_interchainTransfer (C : Crypto) (cx : ICtx) (a b c : Bytes) (d : Option Bytes) (g : Nat) :
    FP (interchainTransfer C cx a b c d g) := by
  unfold interchainTransfer; fp
instance fp_deployInterchainTokenRaw (C : Crypto) (cx : ICtx) (a b c d : Bytes) (n : Nat) (m : Bytes) (e : Nat) :
    FP (deployInterchainTokenRaw C cx a b c d n m e) := by
  unfold deployInterchainTokenRaw; fp
instance fp_registerCustomTokenRaw (C : Crypto) (cx : ICtx) (a b : Bytes) (ty : Nat) (lp : Bytes) :
    FP (registerCustomTokenRaw C cx a b ty lp) := by
  unfold registerCustomTokenRaw; fp
instance fp_linkTokenRaw (C : Crypto) (cx : ICtx) (a b c : Bytes) (ty : Nat) (lp : Bytes) (g : Nat) :
    FP (linkTokenRaw C cx a b c ty lp g) := by
  unfold linkTokenRaw; fp
instance fp_deployRemoteInterchainTokenRaw (C : Crypto) (cx : ICtx) (a b c d : Bytes) :
    FP (deployRemoteInterchainTokenRaw C cx a b c d) := by
  unfold deployRemoteInterchainTokenRaw; fp
instance fp_factoryDeployInterchainToken (C : Crypto) (cx : ICtx) (a b c : Bytes) (d s : Nat) (m : Bytes) :
    FP (factoryDeployInterchainToken C cx a b c d s m) := by
  unfold factoryDeployInterchainToken; fp
instance fp_unit (m : M Unit) [FP m] : FP (ItsW.unit m) := by
  unfold ItsW.unit; fp
instance fp_retUnlessAsync (m : M Bytes) [FP m] : FP (retUnlessAsync m) := by
  unfold retUnlessAsync; fp

/-- `deployRemoteInterchainToken[WithMinter]`: the minter check and the approval use come first;
    they are sub-calls and a write to the approvals table, none of which touches the pause flag -/
instance fp_deployRemoteWithMinter (C : Crypto) (cx : ICtx) (a b c : Bytes) (dm : Option Bytes) :
    FP (deployRemoteWithMinter C cx a b c dm) := by
  rw [deployRemoteWithMinter_eq]; fp

/-- the endpoints the pause must stop (Props/C20.lean ties this list to the endpoint table
    regenerated from the Rust sources) -/
def pausableEndpoints : List String :=
  ["execute", "interchainTransfer", "callContractWithInterchainToken", "registerCanonicalInterchainToken",
   "registerCustomToken", "deployInterchainToken", "deployRemoteInterchainToken",
   "deployRemoteInterchainTokenWithMinter", "deployRemoteCanonicalInterchainToken", "linkToken"]

/-- the guard of endpoint `func`: what must hold of the caller and of the service's storage before
    the call for the call to go through.  (Not every check of the dispatcher: the payment guards,
    the owner check of `upgradeContract` and the operator check of the operatorship endpoints are
    not in it.) -/
structure Guard (cx : ICtx) (func : String) (s : Its.State) : Prop where
  paused : func ∈ pausableEndpoints → s.paused = false
  owner : func ∈ ownerOps → cx.caller = cx.owner
  operator : func = "setFlowLimits" → isOperator s cx.caller = true

/-- `Guard` as a relation for `Frame` / `FrameAt`: it looks at the world before only, so a frame
    within it is a precondition of success (it is no `FrameRel`) -/
abbrev Guarded (cx : ICtx) (func : String) : World → World → Prop := fun w _ => Guard cx func w.its

section
variable {cx : ICtx} {f : String} {s : Its.State} {α : Type}

/- Four ways an arm `m` of the dispatcher for the endpoint name `f` meets `Guard`.  Statement by
   statement `f` and `m` are unrelated: `call_sound` pairs each arm with its name, and the side
   conditions `f ∉ …` say that the other fields of `Guard` are vacuous for that name. -/

theorem guard_none {m : M α} (h : f ∉ pausableEndpoints ∧ f ∉ ownerOps ∧ f ≠ "setFlowLimits") :
    FrameAt s (Guarded cx f) m :=
  ⟨fun _ _ => ⟨(absurd · h.1), (absurd · h.2.1), (absurd · h.2.2)⟩⟩

theorem guard_paused {m : M α} (hm : FP m) (h : f ∉ ownerOps ∧ f ≠ "setFlowLimits") : FrameAt s (Guarded cx f) m := by
  refine ⟨fun {t _ _} _ hr => ⟨fun _ => ?_, (absurd · h.1), (absurd · h.2)⟩⟩
  cases hp : t.w.its.paused
  · rfl
  · rw [hm.h t hp] at hr
    cases hr

theorem guard_owner {m : M Unit} (h : f ∉ pausableEndpoints ∧ f ≠ "setFlowLimits") :
    FrameAt s (Guarded cx f) (ItsW.unit (require (cx.caller == cx.owner) >>= fun _ => m)) := by
  refine ⟨fun _ hr => ⟨(absurd · h.1), fun _ => ?_, (absurd · h.2)⟩⟩
  simp only [unit_eq_some, bind_eq_some, require_eq_some, beq_iff_eq] at hr
  obtain ⟨⟨_, _, ⟨ho, _⟩, _⟩, _⟩ := hr
  exact ho

theorem guard_operator {m : M Unit} (h : f ∉ pausableEndpoints ∧ f ∉ ownerOps) :
    FrameAt s (Guarded cx f) (ItsW.unit (require (isOperator s cx.caller) >>= fun _ => m)) := by
  refine ⟨fun hs hr => ⟨(absurd · h.1), (absurd · h.2), fun _ => ?_⟩⟩
  simp only [unit_eq_some, bind_eq_some, require_eq_some] at hr
  obtain ⟨⟨_, _, ⟨ho, _⟩, _⟩, _⟩ := hr
  exact hs ▸ ho

end

end Axelar.ItsW
