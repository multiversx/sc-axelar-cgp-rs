/-
  Ledger equations: how every balance (every account, EGLD and every ESDT key) changes through
  payments, sends and token-manager effects; and the EGLD reading of an equation that moves EGLD from
  one account to another (`Moves.egld_eq`).
-/
import Axelar.Proofs.WorldFrame
namespace Axelar.World
open Axelar

/-- an asset: `none` = EGLD, `some key` = an ESDT balance key -/
abbrev Asset := Option Bytes

abbrev Amt := Bytes → Asset → Nat

/-- what every account gives (`out`) and gets (`inn`) of every asset between `w` and `w'`.  The additive form
    needs no distinctness hypotheses (payer = payee, manager = recipient … are all covered by the same equation)
    and composes by adding equations (`Led.trans`). -/
def Led (w w' : World) (out inn : Amt) : Prop :=
  ∀ x k, balanceOf w' x k + out x k = balanceOf w x k + inn x k

def nil : Amt := fun _ _ => 0
/-- `n` of asset `k` at account `a` -/
def pt (a : Bytes) (k : Asset) (n : Nat) : Amt := fun x k' => if x = a ∧ k' = k then n else 0
def plus (f g : Amt) : Amt := fun x k => f x k + g x k

theorem plus_nil (f : Amt) : plus f nil = f := rfl
theorem nil_plus (f : Amt) : plus nil f = f := by
  funext x k
  exact Nat.zero_add _

theorem pt_zero (a : Bytes) (k : Asset) : pt a k 0 = nil := by
  funext x k'
  exact ite_self 0

theorem pt_self (a : Bytes) (k : Asset) (n : Nat) : pt a k n a k = n := if_pos ⟨rfl, rfl⟩

theorem pt_of_ne {a x : Bytes} (h : x ≠ a) (k k' : Asset) (n : Nat) : pt a k n x k' = 0 :=
  if_neg fun e => h e.1

theorem Led.refl (w : World) : Led w w nil nil := fun _ _ => rfl

theorem Led.trans {a b c : World} {o1 i1 o2 i2 : Amt} (h1 : Led a b o1 i1) (h2 : Led b c o2 i2) :
    Led a c (plus o1 o2) (plus i1 i2) := by
  intro x k
  unfold plus
  rw [Nat.add_left_comm, h2 x k, Nat.add_left_comm, ← Nat.add_assoc, h1 x k, Nat.add_assoc]

/-- the same change described by other (equivalent) amounts -/
theorem Led.conv {w w' : World} {o i o' i' : Amt} (h : Led w w' o i)
    (he : ∀ x k, o x k + i' x k = o' x k + i x k) : Led w w' o' i' := by
  intro x k
  apply Nat.add_right_cancel (m := i x k)
  rw [Nat.add_assoc, ← he x k, ← Nat.add_assoc, h x k, Nat.add_right_comm]

/-- a ledger equation speaks of the accounts only -/
theorem Led.congr {w0 w w' w1 : World} {o i : Amt} (h : Led w w' o i) (h0 : w0.accts = w.accts)
    (h1 : w1.accts = w'.accts) : Led w0 w1 o i := by
  intro x k
  unfold balanceOf
  rw [h0, h1]
  exact h x k

theorem Led.of_accts {w w' : World} (h : w'.accts = w.accts) : Led w w' nil nil :=
  (Led.refl w).congr rfl h

theorem Led.src {w w' : World} {a b : Bytes} {k : Asset} {n : Nat} (h : Led w w' (pt a k n) (pt b k n)) (hne : a ≠ b) :
    balanceOf w' a k + n = balanceOf w a k := by
  have := h a k
  rwa [pt_self, pt_of_ne hne] at this

theorem Led.dst {w w' : World} {a b : Bytes} {k : Asset} {n : Nat} (h : Led w w' (pt a k n) (pt b k n)) (hne : a ≠ b) :
    balanceOf w' b k = balanceOf w b k + n := by
  have := h b k
  rwa [pt_self, pt_of_ne hne.symm] at this

theorem Led.other {w w' : World} {a b x : Bytes} {k k' : Asset} {n : Nat} (h : Led w w' (pt a k n) (pt b k n))
    (hx : ¬ (k' = k ∧ (x = a ∨ x = b))) : balanceOf w' x k' = balanceOf w x k' := by
  have := h x k'
  rwa [pt, pt, if_neg fun e => hx ⟨e.2, .inl e.1⟩, if_neg fun e => hx ⟨e.2, .inr e.1⟩] at this

theorem Led.same {w w' : World} (h : Led w w' nil nil) (x : Bytes) (k : Asset) :
    balanceOf w' x k = balanceOf w x k :=
  h x k

theorem led_addEgld (w : World) (a : Bytes) (n : Nat) : Led w (addEgld w a n) nil (pt a none n) := by
  intro x k
  unfold pt nil balanceOf addEgld upd
  by_cases hx : x = a <;> cases k <;> simp [hx]

theorem led_subEgld {w w' : World} {a : Bytes} {n : Nat} (h : subEgld w a n = some w') :
    Led w w' (pt a none n) nil := by
  simp only [subEgld, Option.ite_none_right_eq_some, Option.some.injEq] at h
  obtain ⟨hn, rfl⟩ := h
  intro x k
  unfold pt nil balanceOf upd
  by_cases hx : x = a <;> cases k <;> simp [hx]
  exact Nat.sub_add_cancel hn

theorem led_addEsdt (w : World) (a t : Bytes) (n : Nat) : Led w (addEsdt w a t n) nil (pt a (some t) n) := by
  intro x k
  unfold pt nil balanceOf addEsdt
  by_cases hx : x = a <;> cases k <;> simp [hx, upd_same, upd_other, upd_add]

theorem led_subEsdt {w w' : World} {a t : Bytes} {n : Nat} (h : subEsdt w a t n = some w') :
    Led w w' (pt a (some t) n) nil := by
  simp only [subEsdt, Option.ite_none_right_eq_some, Option.some.injEq] at h
  obtain ⟨hn, rfl⟩ := h
  intro x k
  unfold pt nil balanceOf upd
  by_cases hx : x = a <;> cases k <;> simp [hx]
  split <;> simp [*]

/-- the commonest equation: `n` of asset `k` goes from `a` to `b` and no other balance changes — together with the
    fact that `a` had the amount -/
structure Moves (w w' : World) (a b : Bytes) (k : Asset) (n : Nat) : Prop where
  led : Led w w' (pt a k n) (pt b k n)
  le : n ≤ balanceOf w a k

theorem Moves.zero (w : World) (a b : Bytes) (k : Asset) : Moves w w a b k 0 := by
  refine ⟨?_, Nat.zero_le _⟩
  rw [pt_zero, pt_zero]
  exact Led.refl w

theorem Moves.congr {w w' u : World} {a b : Bytes} {k : Asset} {n : Nat} (h : Moves w w' a b k n)
    (h1 : u.accts = w'.accts) : Moves w u a b k n :=
  ⟨h.led.congr rfl h1, h.le⟩

/-- what is taken out of an account was there -/
theorem Led.le_of_out {w w' : World} {a : Bytes} {k : Asset} {n : Nat} (h : Led w w' (pt a k n) nil) :
    n ≤ balanceOf w a k := by
  have := h a k
  rw [pt_self] at this
  exact Nat.le.intro ((Nat.add_comm _ _).trans this)

theorem Moves.of_send {w w' : World} {src dst : Bytes} {k : Asset} {n : Nat} (h : send w src dst k n = some w') :
    Moves w w' src dst k n := by
  cases k with
  | none =>
    obtain ⟨w0, h0, rfl⟩ := Option.map_eq_some_iff.mp h
    have h1 := led_subEgld h0
    exact ⟨by simpa only [plus_nil, nil_plus] using h1.trans (led_addEgld _ _ _), h1.le_of_out⟩
  | some tk =>
    obtain ⟨w0, h0, rfl⟩ := Option.map_eq_some_iff.mp h
    have h1 := led_subEsdt h0
    exact ⟨by simpa only [plus_nil, nil_plus] using h1.trans (led_addEsdt _ _ _ _), h1.le_of_out⟩

def egld (w : World) (a : Bytes) : Nat := (w.accts a).egld

/-- balances after moving `e` EGLD from `src` to `dst` -/
def movedEgld (w : World) (src dst : Bytes) (e : Nat) (x : Bytes) : Nat :=
  (if x = src then egld w x - e else egld w x) + (if x = dst then e else 0)

theorem movedEgld_zero (w : World) (src dst x : Bytes) : movedEgld w src dst 0 x = egld w x := by
  unfold movedEgld
  rw [Nat.sub_zero, ite_self, ite_self, Nat.add_zero]

theorem Moves.egld_eq {w w' : World} {a b : Bytes} {n : Nat} (h : Moves w w' a b none n) (x : Bytes) :
    egld w' x = movedEgld w a b n x := by
  have hx : egld w' x + pt a none n x none = egld w x + pt b none n x none := h.led x none
  have hle : n ≤ egld w a := h.le
  simp only [pt, and_true] at hx
  unfold movedEgld
  by_cases h1 : x = a
  · subst h1
    rw [if_pos rfl] at hx ⊢
    apply Nat.add_right_cancel (m := n)
    rw [hx, Nat.add_right_comm, Nat.sub_add_cancel hle]
  · rwa [if_neg h1] at hx ⊢

/-- total amount of asset `k` in a payment -/
def payAmt (e : Nat) (l : List (Bytes × Nat × Nat)) (k : Asset) : Nat :=
  (if k = none then e else 0) + (l.map fun p => if k = some (esdtKey p.1 p.2.1) then p.2.2 else 0).sum

theorem payAmt_nil (a : Bytes) (e : Nat) : (fun x k => if x = a then payAmt e [] k else 0) = pt a none e := by
  funext x k
  by_cases hx : x = a <;> simp [payAmt, pt, hx]

theorem payAmt_cons (a : Bytes) (e : Nat) (tok : Bytes) (n amt : Nat) (l : List (Bytes × Nat × Nat)) :
    (fun x k => if x = a then payAmt e ((tok, n, amt) :: l) k else 0) =
      plus (pt a (some (esdtKey tok n)) amt) (fun x k => if x = a then payAmt e l k else 0) := by
  funext x k
  unfold plus pt payAmt
  by_cases hx : x = a
  · simp only [hx, true_and, if_true, List.map_cons, List.sum_cons]
    exact Nat.add_left_comm _ _ _
  · simp [hx]

/-- a payment moves exactly its amounts, asset by asset, from the payer to the payee -/
theorem led_pay {src dst : Bytes} {e : Nat} {l : List (Bytes × Nat × Nat)} {w w' : World}
    (h : pay w src dst e l = some w') :
    Led w w' (fun x k => if x = src then payAmt e l k else 0) (fun x k => if x = dst then payAmt e l k else 0) := by
  induction l generalizing w with
  | nil =>
    rw [pay_nil] at h
    rw [payAmt_nil, payAmt_nil]
    exact (Moves.of_send h).led
  | cons p l ih =>
    rw [pay_cons] at h
    obtain ⟨w1, h1, h2⟩ := Option.bind_eq_some_iff.mp h
    rw [payAmt_cons, payAmt_cons]
    exact (Moves.of_send h1).led.trans (ih h2)

theorem led_effects_nil {w w' : World} {tm : Bytes} (h : applyEffects w tm [] = some w') : Led w w' nil nil := by
  cases h
  exact Led.refl _

/-- unlock: one send -/
theorem led_effects_send {w w' : World} {tm dest : Bytes} {k : Asset} {n : Nat}
    (h : applyEffects w tm [.send dest k n] = some w') : Led w w' (pt tm k n) (pt dest k n) := by
  simp only [applyEffects] at h
  split at h <;> cases h
  rename_i hs
  exact (Moves.of_send hs).led

/-- mint then send: the supply grows by `n`, all of it ends at the destination -/
theorem led_effects_mint_send {w w' : World} {tm dest t : Bytes} {n : Nat}
    (h : applyEffects w tm [.mint t n, .send dest (some t) n] = some w') :
    w.mintRole (tm, t) = true ∧ Led w w' nil (pt dest (some t) n) := by
  simp only [applyEffects] at h
  split at h
  · rename_i hr
    split at h <;> cases h
    rename_i hs
    -- what is minted at the manager is what the manager sends on
    exact ⟨hr, ((led_addEsdt w tm t n).trans (Moves.of_send hs).led).conv fun x k => Nat.add_assoc _ _ _⟩
  · cases h

/-- burn: the supply shrinks by `n`, taken from the manager's balance -/
theorem led_effects_burn {w w' : World} {tm t : Bytes} {n : Nat}
    (h : applyEffects w tm [.burn t n] = some w') :
    w.burnRole (tm, t) = true ∧ Led w w' (pt tm (some t) n) nil := by
  simp only [applyEffects] at h
  split at h
  · cases h
  · rename_i hr
    split at h <;> cases h
    rename_i hs
    exact ⟨by simpa using hr, led_subEsdt hs⟩

end Axelar.World
