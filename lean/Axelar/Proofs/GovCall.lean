/-
  What each operation of the governance model is when it succeeds, said once: the time-lock primitives, the two
  dispatch endpoints, the callbacks, `processCommand`, `execute`, and the dispatcher `call`.  The properties
  C11 / C12 / C16 and the three ghost histories (GovHistory, GovLedger, GovCount) are read off these.
-/
import Axelar.Model.Governance
import Axelar.Proofs.GatewayProofs
namespace Axelar

/-! How a 0/1 indicator of a map entry (`p (f x)`: the time lock of `x` is set, the proposal `x` is approved)
    moves when one entry of the map is rewritten.  The change is expressed through `if x = k then 1 else 0`, so that
    counting arguments need no case distinction on the key. -/

section
variable {α β : Type} [DecidableEq α] (p : β → Prop) [DecidablePred p] {f g : α → β} {k : α} {b : β}

theorem ind_upd_le (h : g = upd f k b) (x : α) :
    (if p (g x) then 1 else 0) ≤ (if p (f x) then 1 else 0) + if x = k then 1 else 0 := by
  subst h
  unfold upd
  by_cases hx : x = k
  · simp only [if_pos hx]
    split
    · exact Nat.le_add_left 1 _
    · exact Nat.zero_le _
  · simp only [if_neg hx]
    exact Nat.le_refl _

theorem ind_upd_clear_le (h : g = upd f k b) (hb : ¬ p b) (x : α) :
    (if p (g x) then 1 else 0) ≤ if p (f x) then 1 else 0 := by
  subst h
  unfold upd
  by_cases hx : x = k
  · simp only [if_pos hx, if_neg hb]
    exact Nat.zero_le _
  · simp only [if_neg hx]
    exact Nat.le_refl _

theorem ind_upd_clear (h : g = upd f k b) (hb : ¬ p b) (hk : p (f k)) (x : α) :
    (if p (g x) then 1 else 0) + (if x = k then 1 else 0) = if p (f x) then 1 else 0 := by
  subst h
  unfold upd
  by_cases hx : x = k
  · subst hx
    simp only [if_true, if_neg hb, if_pos hk]
  · simp only [if_neg hx]
    rfl

end

namespace Governance
open Axelar Codec

variable {C : Crypto} {st st' : State} {ctx : Ctx} {out : Out} {now eta eta' v : Nat} {hash t cd : Bytes}

theorem scheduleTimeLock_eq_ok
    (h : scheduleTimeLock st now hash eta = .ok (st', eta')) :
    st.eta hash = 0 ∧ now + st.minDelay < 2 ^ 64 ∧ eta' = max eta (now + st.minDelay) ∧
    st' = { st with eta := upd st.eta hash eta' } := by
  obtain ⟨h0, h⟩ := ite_error_eq_ok.mp h
  obtain ⟨hlt, h⟩ := ite_else_error_eq_ok.mp h
  cases h
  refine ⟨Decidable.not_not.mp h0, hlt, ?_, rfl⟩
  split
  · exact (Nat.max_eq_right (Nat.le_of_lt ‹_›)).symm
  · exact (Nat.max_eq_left (Nat.le_of_not_lt ‹_›)).symm

theorem finalizeTimeLock_eq_ok
    (h : finalizeTimeLock st now hash = .ok (st', eta)) :
    eta = st.eta hash ∧ eta ≠ 0 ∧ eta ≤ now ∧ st' = { st with eta := upd st.eta hash 0 } := by
  obtain ⟨h0, h⟩ := ite_error_eq_ok.mp h
  obtain ⟨hnow, h⟩ := ite_error_eq_ok.mp h
  cases h
  exact ⟨rfl, h0, Nat.le_of_not_lt hnow, rfl⟩

theorem prepareDispatch_eq_ok {b : Bool} {name : Bytes} {args : List Bytes}
    (h : prepareDispatch ctx cd b = .ok (name, args)) :
    ∃ minGas, top decCallData cd = some (name, args, minGas) ∧ gasOk ctx b minGas = .ok () := by
  revert h
  fun_cases prepareDispatch ctx cd b
  all_goals intro h
  all_goals cases h
  exact ⟨_, ‹_›, ‹_›⟩

theorem executeProposal_eq_ok
    (h : executeProposal C st ctx t cd v = .ok out) :
    st.eta (proposalHash C t cd v) ≠ 0 ∧ st.eta (proposalHash C t cd v) ≤ ctx.now ∧
    ∃ name args minGas, top decCallData cd = some (name, args, minGas) ∧
      out = { st := { st with eta := upd st.eta (proposalHash C t cd v) 0 },
              events := [⟨"proposal_executed_event", [proposalHash C t cd v, t], [proposalData cd v]⟩],
              dispatch := some ⟨t, name, v, args, proposalHash C t cd v, st.eta (proposalHash C t cd v),
                ctx.caller, anyPayment ctx, false⟩ } := by
  simp only [executeProposal] at h
  split at h
  · cases h
  · rename_i st' eta hf
    obtain ⟨rfl, h0, hnow, rfl⟩ := finalizeTimeLock_eq_ok hf
    split at h
    · cases h
    · rename_i name args hp
      obtain ⟨minGas, hd, _⟩ := prepareDispatch_eq_ok hp
      cases h
      exact ⟨h0, hnow, name, args, minGas, hd, rfl⟩

theorem executeOperatorProposal_eq_ok
    (h : executeOperatorProposal C st ctx t cd v = .ok out) :
    ctx.caller = st.operator ∧ st.approvals (proposalHash C t cd v) = true ∧
    ∃ name args minGas, top decCallData cd = some (name, args, minGas) ∧
      out = { st := { st with approvals := upd st.approvals (proposalHash C t cd v) false },
              events := [⟨"operator_proposal_executed_event", [proposalHash C t cd v, t], [proposalData cd v]⟩],
              dispatch := some ⟨t, name, v, args, proposalHash C t cd v, 0, st.operator, anyPayment ctx, true⟩ } := by
  revert h
  fun_cases executeOperatorProposal C st ctx t cd v
  all_goals intro h
  all_goals cases h
  next hc _ ha _ name args hp =>
    obtain ⟨minGas, hd, _⟩ := prepareDispatch_eq_ok hp
    exact ⟨by simpa using hc, by simpa using ha, name, args, minGas, hd, rfl⟩

/-- what the two dispatch endpoints have in common -/
theorem dispatch_out
    (h : executeProposal C st ctx t cd v = .ok out ∨ executeOperatorProposal C st ctx t cd v = .ok out) :
    out.sends = [] ∧ out.st.refunds = st.refunds ∧ out.st.operator = st.operator ∧
    ∃ d, out.dispatch = some d ∧ d.payments = anyPayment ctx ∧ d.caller = ctx.caller := by
  rcases h with h | h
  · obtain ⟨_, _, _, _, _, _, rfl⟩ := executeProposal_eq_ok h
    exact ⟨rfl, rfl, rfl, _, rfl, rfl, rfl⟩
  · obtain ⟨hc, _, _, _, _, _, rfl⟩ := executeOperatorProposal_eq_ok h
    exact ⟨rfl, rfl, rfl, _, rfl, rfl, hc.symm⟩

theorem credit_one (r : RefundKey → Nat) (who tok : Bytes) (nonce amt : Nat) (key : RefundKey) :
    upd r (who, tok, nonce) (r (who, tok, nonce) + amt) key =
      r key + (if key.1 = who then (if key.2.1 = tok ∧ key.2.2 = nonce then amt else 0) else 0) := by
  obtain ⟨u, t, n⟩ := key
  rw [upd_add]
  by_cases hu : u = who <;> simp [hu]

theorem creditPayments_frame (st : State) (who : Bytes) (p : Payments) :
    ∃ r, creditPayments st who p = { st with refunds := r } := by
  cases p with
  | egld v => exact ⟨_, rfl⟩
  | esdt l =>
    refine List.foldlRecOn (motive := fun s => ∃ r, s = { st with refunds := r }) l _ ⟨st.refunds, rfl⟩ ?_
    rintro s ⟨r, rfl⟩ x _
    exact ⟨_, rfl⟩

theorem callback_true_st (st : State) (d : Dispatch) (rs : List Bytes) : (callback st d true rs).st = st := rfl

theorem callback_eta (st : State) (d : Dispatch) (ok : Bool) (rs : List Bytes) :
    (callback st d ok rs).st.eta =
      if ok = false ∧ d.operatorProposal = false then upd st.eta d.hash d.eta else st.eta := by
  obtain ⟨r, hr⟩ := creditPayments_frame st d.caller d.payments
  cases ok <;> cases hd : d.operatorProposal <;> simp [callback, hd, hr]

theorem callback_approvals (st : State) (d : Dispatch) (ok : Bool) (rs : List Bytes) :
    (callback st d ok rs).st.approvals =
      if ok = false ∧ d.operatorProposal = true then upd st.approvals d.hash true else st.approvals := by
  obtain ⟨r, hr⟩ := creditPayments_frame st d.caller d.payments
  cases ok <;> cases hd : d.operatorProposal <;> simp [callback, hd, hr]

theorem callback_refunds (st : State) (d : Dispatch) (ok : Bool) (rs : List Bytes) :
    (callback st d ok rs).st.refunds =
      if ok = true then st.refunds else (creditPayments st d.caller d.payments).refunds := by
  cases ok <;> cases hd : d.operatorProposal <;> simp [callback, hd]

/-- An accepted command rewrites one entry of one of the two maps.  (`generalizing := false`: otherwise the `match`
    takes the hypothesis `h`, which mentions `cmd`, as a second discriminant.) -/
theorem processCommand_st {cmd : Command} {evs : List Ev}
    (h : processCommand C st now cmd t cd v eta = .ok (st', evs)) :
    st' = match (generalizing := false) cmd with
      | .schedule => { st with eta := upd st.eta (proposalHash C t cd v) (max eta (now + st.minDelay)) }
      | .cancel => { st with eta := upd st.eta (proposalHash C t cd v) 0 }
      | .approveOperator => { st with approvals := upd st.approvals (proposalHash C t cd v) true }
      | .cancelOperator => { st with approvals := upd st.approvals (proposalHash C t cd v) false } := by
  revert h
  fun_cases processCommand C st now cmd t cd v eta
  all_goals intro h
  all_goals cases h
  next hs =>
    obtain ⟨_, _, rfl, rfl⟩ := scheduleTimeLock_eq_ok hs
    rfl
  all_goals rfl

theorem processCommand_approvals (C : Crypto) (st : State) (now : Nat) (cmd : Command) (t cd : Bytes) (v eta : Nat)
    (st' : State) (evs : List Ev) (hp : processCommand C st now cmd t cd v eta = .ok (st', evs)) :
    st'.approvals = match cmd with
      | .approveOperator => upd st.approvals (proposalHash C t cd v) true
      | .cancelOperator => upd st.approvals (proposalHash C t cd v) false
      | _ => st.approvals := by
  obtain rfl := processCommand_st hp
  cases cmd <;> rfl

theorem processCommand_refunds {cmd : Command} {evs : List Ev}
    (hp : processCommand C st now cmd t cd v eta = .ok (st', evs)) :
    st'.refunds = st.refunds := by
  obtain rfl := processCommand_st hp
  cases cmd <;> rfl

theorem execute_eq_ok {gw gw' : Gateway.State} {chain id src payload : Bytes} {e1 e2 : List Ev}
    (h : execute C st gw ctx chain id src payload = .ok (st', gw', e1, e2)) :
    chain = st.govChain ∧ src = st.govAddress ∧
    gw.messages (chain, id) = .approved (Gateway.messageHash C chain id src ctx.self (C.H payload)) ∧
    gw' = { gw with messages := upd gw.messages (chain, id) .executed } ∧
    ∃ cmd t cd v eta, top decExecutePayload payload = some (cmd, t, cd, v, eta) ∧ Gateway.isZeroAddr t = false ∧
      processCommand C st ctx.now cmd t cd v eta = .ok (st', e2) := by
  obtain ⟨happ, hgw, _⟩ := Gateway.validateMessage_spec C gw ctx.self chain id src (C.H payload)
  revert h
  fun_cases execute C st gw ctx chain id src payload
  all_goals intro h
  all_goals cases h
  next hsrc _ hvalid cmd t cd v eta hdec hz hv hp =>
    rw [hv] at happ hgw
    simp only [Bool.not_eq_true', Bool.not_eq_false, Bool.and_eq_true, beq_iff_eq] at hsrc hvalid
    exact ⟨hsrc.1, hsrc.2, happ.mp hvalid, hgw hvalid, cmd, t, cd, v, eta, hdec, Bool.eq_false_iff.mpr hz, hp⟩

theorem execute_cases (C : Crypto) (st : State) (gw : Gateway.State) (ctx : Ctx) (chain id src payload : Bytes)
    (st' : State) (gw' : Gateway.State) (e1 e2 : List Ev)
    (h : execute C st gw ctx chain id src payload = .ok (st', gw', e1, e2)) :
    ∃ cmd t cd v eta evs, top decExecutePayload payload = some (cmd, t, cd, v, eta) ∧
      processCommand C st ctx.now cmd t cd v eta = .ok (st', evs) := by
  obtain ⟨_, _, _, _, cmd, t, cd, v, eta, hdec, _, hp⟩ := execute_eq_ok h
  exact ⟨cmd, t, cd, v, eta, e2, hdec, hp⟩

theorem execute_refunds {gw gw' : Gateway.State} {chain id src payload : Bytes} {e1 e2 : List Ev}
    (h : execute C st gw ctx chain id src payload = .ok (st', gw', e1, e2)) : st'.refunds = st.refunds := by
  obtain ⟨_, _, _, _, _, _, _, _, _, _, _, hp⟩ := execute_eq_ok h
  exact processCommand_refunds hp

/-- What a successful endpoint call can be: one of the two dispatches, `withdraw` by the contract itself,
    `transferOperatorship` by the operator or the contract, a withdrawal of a refund credit, or a view. -/
inductive CallOk (C : Crypto) (st : State) (ctx : Ctx) (func : String) (args : List Bytes) (out : Out) : Prop
  | timeLock {t cd : Bytes} {v : Nat} (hf : func = "executeProposal") (h : executeProposal C st ctx t cd v = .ok out)
  | operator {t cd : Bytes} {v : Nat} (hf : func = "executeOperatorProposal") (h : executeOperatorProposal C st ctx t cd v = .ok out)
  | withdraw {r a} (hf : func = "withdraw") (hself : ctx.caller = ctx.self)
      (h : out = { st := st, sends := [⟨r, none, a⟩] })
  | transferOperatorship {o} (hf : func = "transferOperatorship")
      (hauth : ctx.caller = st.operator ∨ ctx.caller = ctx.self)
      (h : out = { st := { st with operator := o }, events := [⟨"operatorship_transferred_event", [st.operator], [o]⟩] })
  | withdrawRefundToken {t tok nonce} (hf : func = "withdrawRefundToken") (ha : args = [t])
      (hdec : top decToken t = some (tok, nonce)) (h : out = withdrawRefundToken st ctx tok nonce)
  | view {rs} (h : out = { st := st, results := rs })

theorem call_ok {func : String} {args : List Bytes}
    (h : call C st ctx func args = .ok out) : CallOk C st ctx func args out := by
  unfold call at h
  split at h
  · split at h
    · exact .timeLock rfl h
    · cases h
  · split at h
    · exact .operator rfl h
    · cases h
  · obtain ⟨_, h⟩ := ite_error_eq_ok.mp h
    split at h
    · split at h
      · obtain ⟨hself, h⟩ := ite_error_eq_ok.mp h
        cases h
        exact .withdraw rfl (by simpa using hself) rfl
      · cases h
    · split at h
      · obtain ⟨hauth, h⟩ := ite_error_eq_ok.mp h
        obtain ⟨_, h⟩ := ite_error_eq_ok.mp h
        cases h
        simp only [Bool.not_eq_true', Bool.not_eq_false, Bool.or_eq_true, beq_iff_eq] at hauth
        exact .transferOperatorship rfl hauth rfl
      · cases h
    · split at h
      · cases h
        exact .withdrawRefundToken rfl rfl ‹_› rfl
      · cases h
    -- the remaining endpoints are views (decoding their argument, if they take one)
    all_goals try split at h
    all_goals cases h
    all_goals exact .view rfl

/-- what a successful endpoint call does to the approvals and which dispatch it registers -/
theorem call_approvals (C : Crypto) (st : State) (ctx : Ctx) (func : String) (args : List Bytes) (out : Out)
    (h : call C st ctx func args = .ok out) :
    (∃ d, out.dispatch = some d ∧ d.operatorProposal = true ∧ st.approvals d.hash = true ∧
        out.st.approvals = upd st.approvals d.hash false) ∨
    ((∀ d, out.dispatch = some d → d.operatorProposal = false) ∧ out.st.approvals = st.approvals) := by
  cases call_ok h with
  | operator _ he =>
    obtain ⟨_, ha, _, _, _, _, rfl⟩ := executeOperatorProposal_eq_ok he
    exact .inl ⟨_, rfl, rfl, ha, rfl⟩
  | timeLock _ he =>
    obtain ⟨_, _, _, _, _, _, rfl⟩ := executeProposal_eq_ok he
    refine .inr ⟨fun d hd => ?_, rfl⟩
    cases hd
    rfl
  | _ =>
    subst out
    exact .inr ⟨fun _ => nofun, rfl⟩

end Governance
end Axelar
