/-
  The gateway model against its specification: signature validation is sound and complete for the
  weight check of `GatewaySpec`; what each function and each endpoint is when it succeeds (`…_eq_ok`,
  `CallOk`); and the invariants of every call and every history (`call_induct`, `run_induct`: the
  signer registry, the life cycle of a message entry `Trans`).
-/
import Axelar.Spec.GatewaySpec
import Axelar.Proofs.Basics

namespace Axelar.Gateway
open Axelar Axelar.GatewaySpec Codec

variable {C : Crypto} {st st' : State} {ctx : Ctx} {evs : List Ev}

theorem sigLoop_sound {d : Bytes} {thr : Nat} {ss : List WeightedSigner} {gs : List (Option Bytes)}
    {tot : Nat} (h : sigLoop C d thr ss gs tot = .ok ()) : tot + validWeight C d ss gs ≥ thr := by
  fun_induction sigLoop C d thr ss gs tot with
  | case1 s ss gs tot ih => exact ih h
  | case2 s ss sig gs tot hv tot' ht =>
    rw [validWeight, if_pos hv, ← Nat.add_assoc]
    exact Nat.le_trans ht (Nat.le_add_right _ _)
  | case3 s ss sig gs tot hv tot' ht ih =>
    rw [validWeight, if_pos hv, ← Nat.add_assoc]
    exact ih h
  | case4 => cases h
  | case5 => cases h

/-- No hypothesis on the lengths: where the two lists stop matching, `suppliedWeight` counts nothing. -/
theorem sigLoop_complete {d : Bytes} {thr : Nat} {ss : List WeightedSigner} {gs : List (Option Bytes)}
    {tot : Nat} (hall : allSuppliedValid C d ss gs = true) (hlt : tot < thr)
    (hw : tot + suppliedWeight ss gs ≥ thr) : sigLoop C d thr ss gs tot = .ok () := by
  fun_induction sigLoop C d thr ss gs tot with
  | case1 s ss gs tot ih => exact ih hall hlt hw
  | case2 => rfl
  | case3 s ss sig gs tot hv tot' ht ih =>
    refine ih (Bool.and_eq_true_iff.mp hall).2 (Nat.lt_of_not_ge ht) ?_
    rwa [Nat.add_assoc]
  | case4 s ss sig gs tot hv => exact absurd (Bool.and_eq_true_iff.mp hall).1 hv
  | case5 ss gs tot hnone hsome =>
    rw [suppliedWeight.eq_3 ss gs hsome hnone] at hw
    exact absurd hw (Nat.not_le_of_lt hlt)

theorem validateSignatures_sound {d : Bytes} {ws : WeightedSigners} {sigs : List (Option Bytes)}
    (h : validateSignatures C d ws sigs = .ok ()) :
    sigs.length = ws.signers.length ∧ sigs.isEmpty = false ∧
      validWeight C d ws.signers sigs ≥ ws.threshold := by
  revert h
  fun_cases validateSignatures C d ws sigs
  case case1 => exact nofun
  case case2 hc =>
    intro h
    simp only [Bool.or_eq_true, not_or, Bool.not_eq_true, bne_eq_false_iff_eq] at hc
    have := sigLoop_sound h
    exact ⟨hc.2.symm, hc.1, by rwa [Nat.zero_add] at this⟩

theorem validateSignatures_complete {d : Bytes} {ws : WeightedSigners} {sigs : List (Option Bytes)}
    (hlen : sigs.length = ws.signers.length) (hne : sigs.isEmpty = false) (hthr : 0 < ws.threshold)
    (hall : allSuppliedValid C d ws.signers sigs = true)
    (hw : suppliedWeight ws.signers sigs ≥ ws.threshold) :
    validateSignatures C d ws sigs = .ok () := by
  unfold validateSignatures
  rw [if_neg (by simp [hne, hlen])]
  exact sigLoop_complete hall hthr (by rwa [Nat.zero_add])

theorem validateProof_eq_ok {dh : Bytes} {p : Proof} {b : Bool} :
    validateProof C st dh p = .ok b ↔
      inWindow C st p.signers = true ∧
      validateSignatures C (digest C st.domain (signersHash C p.signers) dh) p.signers p.signatures
        = .ok () ∧
      b = (st.epochByHash (signersHash C p.signers) == st.epoch) := by
  fun_cases validateProof C st dh p
  case case1 _ _ hw hv => exact ⟨fun h => ⟨hw, hv, (Except.ok.inj h).symm⟩, fun h => h.2.2 ▸ rfl⟩
  case case2 _ _ hw e hv => exact ⟨nofun, fun h => nomatch hv.symm.trans h.2.1⟩
  case case3 _ _ hw => exact ⟨nofun, fun h => absurd h.1 hw⟩

theorem signersLoop_iff (ss : List WeightedSigner) (prev tot total : Nat) :
    signersLoop ss prev tot = .ok total ↔
      keysIncreasing ss prev = true ∧ ss.all (fun s => decide (0 < s.weight)) = true ∧
      total = tot + totalWeight ss := by
  fun_induction signersLoop ss prev tot with
  | case1 prev tot => simp [keysIncreasing, totalWeight, eq_comm]
  | case2 s ss prev tot cur hkey hweight ih =>
    -- `fun_induction` hands the guards over as written, through the `let`-bound `cur` and with `>`:
    -- they are restated (by `rfl`) in the form the rewriting below can use
    have hkey : prev < beNat s.signer := hkey
    have hweight : 0 < s.weight := hweight
    simp only [ih, keysIncreasing, List.all_cons, totalWeight, List.map_cons, List.sum_cons,
      Bool.and_eq_true, decide_eq_true_eq, hkey, hweight, true_and, Nat.add_assoc]
    rfl
  | case3 s ss prev tot cur hkey hweight =>
    have hweight : ¬ 0 < s.weight := hweight
    simp [hweight]
  | case4 s ss prev tot cur hkey =>
    have hkey : ¬ prev < beNat s.signer := hkey
    simp only [reduceCtorEq, keysIncreasing, hkey, decide_false, Bool.false_and, Bool.false_eq_true, false_and]

/-- `validate_signers` accepts exactly the well-formed sets: non-empty, keys strictly increasing as
    big-endian numbers, all weights positive, `0 < threshold ≤ total weight`. -/
theorem validateSigners_iff (ws : WeightedSigners) :
    validateSigners ws = .ok () ↔ wfSigners ws = true := by
  have hloop := signersLoop_iff ws.signers 0 0
  unfold validateSigners wfSigners
  by_cases he : ws.signers.isEmpty = true
  · simp [he]
  · rw [if_neg he]
    split
    · rename_i e hl
      simp only [reduceCtorEq, false_iff, Bool.and_eq_true, decide_eq_true_eq]
      rintro ⟨⟨⟨⟨-, a⟩, b⟩, -⟩, -⟩
      cases hl.symm.trans ((hloop _).mpr ⟨a, b, rfl⟩)
    · rename_i total hl
      obtain ⟨a, b, rfl⟩ := (hloop _).mp hl
      simp [he, a, b]

/-- The two registry maps are inverse to each other on what is registered.  `fwd`: a hash with a non-zero epoch
    is the hash recorded for that epoch, which is not in the future.  `bwd`: every epoch from 1 to the current one
    records a hash that has this epoch. -/
structure RegInv (st : State) : Prop where
  fwd : ∀ h, 0 < st.epochByHash h → st.hashByEpoch (st.epochByHash h) = h ∧ st.epochByHash h ≤ st.epoch
  bwd : ∀ e, 1 ≤ e → e ≤ st.epoch → st.epochByHash (st.hashByEpoch e) = e

theorem regInv_empty : RegInv State.empty :=
  ⟨fun _ hpos => absurd hpos (Nat.lt_irrefl 0), fun _ h1 h2 => absurd (Nat.le_trans h1 h2) (Nat.lt_irrefl 0)⟩

theorem rotateSignersRaw_eq_ok {now : Nat} {ws : WeightedSigners} {enforce : Bool} :
    rotateSignersRaw C st now ws enforce = .ok (st', evs) ↔
    wfSigners ws = true ∧ st.epochByHash (signersHash C ws) = 0 ∧ st.lastRotation ≤ now ∧
    (enforce = true → st.minDelay ≤ now - st.lastRotation) ∧
    st' = { st with lastRotation := now, epoch := st.epoch + 1,
                    hashByEpoch := upd st.hashByEpoch (st.epoch + 1) (signersHash C ws),
                    epochByHash := upd st.epochByHash (signersHash C ws) (st.epoch + 1) } ∧
    evs = [⟨"signers_rotated_event", [Codec.encNat (st.epoch + 1), signersHash C ws], [encSignersTop ws]⟩] := by
  fun_cases rotateSignersRaw C st now ws enforce
  -- the branches, in the order of the checks: set ill-formed, clock behind the last rotation, delay not
  -- elapsed, hash already registered, success
  case case1 e hv =>
    exact ⟨nofun, fun h => nomatch hv.symm.trans ((validateSigners_iff ws).mpr h.1)⟩
  case case2 hv hnow => exact ⟨nofun, fun h => absurd h.2.2.1 (Nat.not_le_of_lt hnow)⟩
  case case3 hv hnow hdelay =>
    simp only [Bool.and_eq_true, decide_eq_true_eq] at hdelay
    exact ⟨nofun, fun h => absurd (h.2.2.2.1 hdelay.1) (Nat.not_le_of_lt hdelay.2)⟩
  case case4 hv hnow hdelay _ hdup => exact ⟨nofun, fun h => absurd h.2.1 hdup⟩
  case case5 hv hnow hdelay _ _ hnew =>
    simp only [Bool.and_eq_true, decide_eq_true_eq, not_and, Nat.not_lt] at hdelay
    constructor
    · rintro ⟨⟩
      exact ⟨(validateSigners_iff ws).mp hv, Decidable.not_not.mp hnew, Nat.le_of_not_lt hnow, hdelay, rfl, rfl⟩
    · rintro ⟨_, _, _, _, rfl, rfl⟩
      rfl

theorem rotateSignersRaw_regInv {now : Nat} {ws : WeightedSigners} {enforce : Bool} (hinv : RegInv st)
    (h : rotateSignersRaw C st now ws enforce = .ok (st', evs)) : RegInv st' := by
  obtain ⟨_, hnew, _, _, rfl, _⟩ := rotateSignersRaw_eq_ok.mp h
  constructor
  · intro h' hpos
    simp only at hpos ⊢
    by_cases hh : h' = signersHash C ws
    · subst hh
      rw [upd_same, upd_same]
      exact ⟨rfl, Nat.le_refl _⟩
    · rw [upd_other hh] at hpos ⊢
      obtain ⟨a, b⟩ := hinv.fwd h' hpos
      rw [upd_other (Nat.ne_of_lt (Nat.lt_succ_of_le b))]
      exact ⟨a, Nat.le_succ_of_le b⟩
  · intro e h1 h2
    simp only
    by_cases he : e = st.epoch + 1
    · subst he
      rw [upd_same, upd_same]
    · rw [upd_other he]
      have hb := hinv.bwd e h1 (Nat.le_of_lt_succ (Nat.lt_of_le_of_ne h2 he))
      -- the hash recorded for an earlier epoch has that epoch, so it is not the fresh one
      have : st.hashByEpoch e ≠ signersHash C ws := by
        intro hc
        rw [hc, hnew] at hb
        rw [← hb] at h1
        exact Nat.not_succ_le_zero 0 h1
      rwa [upd_other this]

theorem rotateSignersRaw_epochByHash {now : Nat} {ws : WeightedSigners} {enforce : Bool}
    (h : rotateSignersRaw C st now ws enforce = .ok (st', evs)) :
    st'.epochByHash (signersHash C ws) ≠ 0 ∧
    ∀ {x n}, st.epochByHash x = n → n ≠ 0 → st'.epochByHash x = n := by
  obtain ⟨_, hnew, _, _, rfl, _⟩ := rotateSignersRaw_eq_ok.mp h
  refine ⟨fun hc => Nat.succ_ne_zero _ ((upd_same _ _ _).symm.trans hc),
    fun hx hn => (upd_other ?_ _ _).trans hx⟩
  rintro rfl
  exact hn (hx.symm.trans hnew)

theorem upgradeLoop_induct {now : Nat} (P : State → Prop)
    (hstep : ∀ st st' ws evs, P st → rotateSignersRaw C st now ws false = .ok (st', evs) → P st')
    {l : List WeightedSigners} {e : List Ev} (hp : P st)
    (hl : upgradeLoop C now st l e = .ok (st', evs)) : P st' := by
  fun_induction upgradeLoop C now st l e with
  | case1 =>
    cases hl
    exact hp
  | case2 => cases hl
  | case3 st w l e st2 e2 hr ih => exact ih (hstep st st2 w e2 hp hr) hl

theorem upgrade_eq_loop (C : Crypto) (st : State) (now : Nat) (op : Bytes) (ss : List WeightedSigners) :
    ∃ st0 e0, (st0 = st ∨ st0 = { st with operator := op }) ∧
      upgrade C st now op ss = upgradeLoop C now st0 ss e0 := by
  unfold upgrade
  by_cases hz : isZeroAddr op = true
  · rw [if_pos hz]
    exact ⟨_, _, .inl rfl, rfl⟩
  · rw [if_neg hz]
    exact ⟨_, _, .inr rfl, rfl⟩

/-- `upgrade`: anything preserved by setting the operator and by a raw rotation is preserved -/
theorem upgrade_induct (C : Crypto) (now : Nat) (P : State → Prop)
    (hop : ∀ st op, P st → P { st with operator := op })
    (hstep : ∀ st st' ws evs, P st → rotateSignersRaw C st now ws false = .ok (st', evs) → P st')
    (st : State) (op : Bytes) (ss : List WeightedSigners) (st1 : State) (e1 : List Ev) (hp : P st)
    (hu : upgrade C st now op ss = .ok (st1, e1)) : P st1 := by
  obtain ⟨st0, e0, hst0, heq⟩ := upgrade_eq_loop C st now op ss
  rw [heq] at hu
  refine upgradeLoop_induct P hstep ?_ hu
  rcases hst0 with rfl | rfl
  · exact hp
  · exact hop st op hp

theorem upgradeLoop_spec {now : Nat} {l : List WeightedSigners} {e : List Ev}
    (hl : upgradeLoop C now st l e = .ok (st', evs)) :
    st'.epoch = st.epoch + l.length ∧
    (∀ {h n}, st.epochByHash h = n → n ≠ 0 → st'.epochByHash h = n) ∧
    (∀ ws ∈ l, wfSigners ws = true ∧ st.epochByHash (signersHash C ws) = 0 ∧
        st'.epochByHash (signersHash C ws) ≠ 0) := by
  fun_induction upgradeLoop C now st l e with
  | case1 =>
    cases hl
    exact ⟨rfl, fun hx _ => hx, nofun⟩
  | case2 => cases hl
  | case3 st w l e st2 e2 hr ih =>
    obtain ⟨hwf, hnew, _, _, hst2, _⟩ := rotateSignersRaw_eq_ok.mp hr
    obtain ⟨hreg, hkeep⟩ := rotateSignersRaw_epochByHash hr
    obtain ⟨i1, i2, i3⟩ := ih hl
    refine ⟨?_, fun hx hn => i2 (hkeep hx hn) hn, fun ws hws => ?_⟩
    · rw [i1, hst2, List.length_cons, Nat.add_assoc, Nat.add_comm 1]
    · rcases List.mem_cons.mp hws with rfl | hmem
      · refine ⟨hwf, hnew, ?_⟩
        rwa [i2 rfl hreg]
      · obtain ⟨a, b, c⟩ := i3 ws hmem
        exact ⟨a, Decidable.byContradiction fun hne => hne ((hkeep rfl hne).symm.trans b), c⟩

theorem approveAll_frame (C : Crypto) (st : State) (ms : List Message) (evs : List Ev) :
    ∃ x, (approveAll C st ms evs).1 = { st with messages := x } := by
  fun_induction approveAll C st ms evs with
  | case1 st evs => exact ⟨_, rfl⟩
  | case2 st m ms evs st1 e1 heq ih =>
    obtain ⟨x, hx⟩ := ih
    have hst1 : st1 = (approveMessage C st m).1 := by rw [heq]
    rw [hx, hst1]
    fun_cases approveMessage C st m <;> exact ⟨_, rfl⟩

theorem approveMessages_eq_ok {m p : Bytes} {r : State × List Ev} :
    approveMessages C st m p = .ok r ↔
    ∃ proof msgs b, top decProof p = some proof ∧ many decMessage m = some msgs ∧
      msgs.isEmpty = false ∧ validateProof C st (dataHash C tagApproveMessages m) proof = .ok b ∧
      r = approveAll C st msgs [] := by
  constructor
  · fun_cases approveMessages C st m p
    -- the fifth branch is the success: both arguments decode, the batch is not empty, the proof validates
    case case5 proof hp _ msgs hm he b hv =>
      rintro ⟨⟩
      exact ⟨proof, msgs, b, hp, hm, eq_false_of_ne_true he, hv, rfl⟩
    all_goals rintro ⟨⟩
  · rintro ⟨proof, msgs, b, hp, hm, he, hv, rfl⟩
    simp only [approveMessages, hp, hm, he, hv, Bool.false_eq_true, if_false]

theorem approveMessages_frame {m p : Bytes} (h : approveMessages C st m p = .ok (st', evs)) :
    ∃ x, st' = { st with messages := x } := by
  obtain ⟨_, msgs, _, _, _, _, _, he⟩ := approveMessages_eq_ok.mp h
  obtain ⟨x, hx⟩ := approveAll_frame C st msgs []
  exact ⟨x, by rw [← hx, ← he]⟩

theorem rotateSigners_eq_ok {s p : Bytes} {r : State × List Ev} :
    rotateSigners C st ctx s p = .ok r ↔
    ∃ proof ws isLatest, top decProof p = some proof ∧ top decSigners s = some ws ∧
      st.operator.isEmpty = false ∧
      validateProof C st (dataHash C tagRotateSigners s) proof = .ok isLatest ∧
      (ctx.caller ≠ st.operator → isLatest = true) ∧
      rotateSignersRaw C st ctx.now ws (ctx.caller != st.operator) = .ok r := by
  constructor
  · fun_cases rotateSigners C st ctx s p
    -- the sixth branch is the only one that reaches `rotateSignersRaw`
    case case6 proof hp _ ws hs ho enforce isLatest hv hl =>
      intro h
      refine ⟨proof, ws, isLatest, hp, hs, eq_false_of_ne_true ho, hv, fun hne => ?_, h⟩
      simpa [enforce, hne] using hl
    all_goals rintro ⟨⟩
  · rintro ⟨proof, ws, isLatest, hp, hs, ho, hv, hl, hraw⟩
    have hl' : ¬ ((ctx.caller != st.operator) && !isLatest) = true := by
      intro hc
      simp only [Bool.and_eq_true, bne_iff_ne, ne_eq, Bool.not_eq_true'] at hc
      cases (hl hc.1).symm.trans hc.2
    simp only [rotateSigners, hp, hs, ho, hv, Bool.false_eq_true, if_false, hl', hraw]

theorem validateMessage_spec (C : Crypto) (st : State) (caller chain id src ph : Bytes) :
    let r := validateMessage C st caller chain id src ph
    (r.2.1 = true ↔ st.messages (chain, id) = .approved (messageHash C chain id src caller ph)) ∧
    (r.2.1 = true → r.1 = { st with messages := upd st.messages (chain, id) .executed }) ∧
    (r.2.1 = false → r.1 = st ∧ r.2.2 = []) := by
  fun_cases validateMessage C st caller chain id src ph
  case case1 _ h => exact ⟨⟨fun _ => h, fun _ => rfl⟩, fun _ => rfl, nofun⟩
  case case2 _ h => exact ⟨⟨nofun, fun h' => absurd h' h⟩, nofun, fun _ => ⟨rfl, rfl⟩⟩

theorem transferOperatorship_eq_ok {op : Bytes} (h : transferOperatorship st ctx op = .ok (st', evs)) :
    (ctx.caller = st.operator ∨ ctx.caller = ctx.owner) ∧ st.operator.isEmpty = false ∧
    isZeroAddr op = false ∧ (st', evs) = transferOperatorshipRaw st op := by
  revert h
  fun_cases transferOperatorship st ctx op
  -- the third branch is the success: operator set, caller authorised, new operator not zero
  case case3 hset hauth hz =>
    rintro ⟨⟩
    exact ⟨by simpa using hauth, eq_false_of_ne_true hset, eq_false_of_ne_true hz, rfl⟩
  all_goals rintro ⟨⟩

/-- What a successful endpoint call can be: one of the five state-changing endpoints, with its decoded
    arguments and the outcome of the function behind it, or a view. -/
inductive CallOk (C : Crypto) (st : State) (ctx : Ctx) (func : String) (args : List Bytes)
    (st' : State) (rs : List Bytes) (evs : List Ev) : Prop
  | approve {m p : Bytes} (hf : func = "approveMessages") (ha : args = [m, p])
      (h : approveMessages C st m p = .ok (st', evs))
  | rotate {s p : Bytes} (hf : func = "rotateSigners") (ha : args = [s, p])
      (h : rotateSigners C st ctx s p = .ok (st', evs))
  | validate {chain id src ph : Bytes} {b : Bool} (hf : func = "validateMessage")
      (ha : args = [chain, id, src, ph]) (hl : ph.length = 32) (hr : rs = [encBool b])
      (h : validateMessage C st ctx.caller chain id src ph = (st', b, evs))
  | transfer {op : Bytes} (hf : func = "transferOperatorship") (ha : args = [op]) (hl : op.length = 32)
      (h : transferOperatorship st ctx op = .ok (st', evs))
  | upgrade {code md op : Bytes} {sraw : List Bytes} {ss : List WeightedSigners}
      (hf : func = "upgradeContract") (ha : args = code :: md :: op :: sraw)
      (hown : ctx.caller = ctx.owner) (hl : op.length = 32)
      (hss : sraw.mapM (top decSigners) = some ss) (h : upgrade C st ctx.now op ss = .ok (st', evs))
  | view (hf : func ∉ ["approveMessages", "rotateSigners", "validateMessage", "transferOperatorship", "upgradeContract"])
      (h : st' = st)

/-- The case analysis of the dispatcher.  `view` forgets the results `rs`: what a view returns
    (`isMessageApproved_call`) is read off `call` again. -/
theorem call_ok {func : String} {args rs : List Bytes}
    (h : call C st ctx func args = .ok (st', rs, evs)) : CallOk C st ctx func args st' rs evs := by
  revert h
  fun_cases call C st ctx func args
  -- the branches of `call` are numbered in the order of its text: 1, 3, 7, 9 and 32 are the successes of
  -- `approveMessages`, `rotateSigners`, `validateMessage`, `transferOperatorship` and `upgradeContract`
  case case1 hm =>
    rintro ⟨⟩
    exact .approve rfl rfl hm
  case case3 hm =>
    rintro ⟨⟩
    exact .rotate rfl rfl hm
  case case7 hph _ _ _ hv =>
    obtain ⟨hl, rfl⟩ := topFixed_eq_some.mp hph
    rintro ⟨⟩
    exact .validate rfl rfl hl rfl hv
  case case9 hop _ _ ht =>
    obtain ⟨hl, rfl⟩ := topFixed_eq_some.mp hop
    rintro ⟨⟩
    exact .transfer rfl rfl hl ht
  case case32 hown _ _ hss hop _ _ hu =>
    obtain ⟨hl, rfl⟩ := topFixed_eq_some.mp hop
    rintro ⟨⟩
    exact .upgrade rfl rfl (by simpa using hown) hl hss hu
  -- every other branch fails, or belongs to a view and returns `st`
  all_goals intro h <;> cases h <;> exact .view (by simp) rfl

/-- What a successful endpoint call can be: the five state-changing endpoints, or a view. -/
theorem call_cases (C : Crypto) (st : State) (ctx : Ctx) (func : String) (args : List Bytes)
    (st' : State) (rs : List Bytes) (evs : List Ev)
    (h : call C st ctx func args = .ok (st', rs, evs)) :
    (∃ m p, func = "approveMessages" ∧ args = [m, p] ∧ approveMessages C st m p = .ok (st', evs)) ∨
    (∃ s p, func = "rotateSigners" ∧ args = [s, p] ∧ rotateSigners C st ctx s p = .ok (st', evs)) ∨
    (∃ chain id src ph b, func = "validateMessage" ∧ args = [chain, id, src, ph] ∧ ph.length = 32 ∧
        validateMessage C st ctx.caller chain id src ph = (st', b, evs) ∧ rs = [encBool b]) ∨
    (∃ op, func = "transferOperatorship" ∧ args = [op] ∧ op.length = 32 ∧
        transferOperatorship st ctx op = .ok (st', evs)) ∨
    (∃ code md op sraw ss, func = "upgradeContract" ∧ args = code :: md :: op :: sraw ∧
        ctx.caller = ctx.owner ∧ op.length = 32 ∧ sraw.mapM (top decSigners) = some ss ∧
        upgrade C st ctx.now op ss = .ok (st', evs)) ∨
    st' = st := by
  cases call_ok h with
  | approve hf ha h => exact .inl ⟨_, _, hf, ha, h⟩
  | rotate hf ha h => exact .inr (.inl ⟨_, _, hf, ha, h⟩)
  | validate hf ha hl hr h => exact .inr (.inr (.inl ⟨_, _, _, _, _, hf, ha, hl, h, hr⟩))
  | transfer hf ha hl h => exact .inr (.inr (.inr (.inl ⟨_, hf, ha, hl, h⟩)))
  | upgrade hf ha hown hl hss h => exact .inr (.inr (.inr (.inr (.inl ⟨_, _, _, _, _, hf, ha, hown, hl, hss, h⟩))))
  | view _ h => exact .inr (.inr (.inr (.inr (.inr h))))

theorem approve_call_inv {args rs : List Bytes}
    (h : call C st ctx "approveMessages" args = .ok (st', rs, evs)) :
    ∃ m p, args = [m, p] ∧ approveMessages C st m p = .ok (st', evs) := by
  cases call_ok h with
  | approve _ ha h => exact ⟨_, _, ha, h⟩
  | rotate hf | validate hf | transfer hf | upgrade hf | view hf => simp at hf

theorem call_approveMessages {m p : Bytes} (h : approveMessages C st m p = .ok (st', evs)) :
    call C st ctx "approveMessages" [m, p] = .ok (st', [], evs) := by
  unfold call
  simp only [h]

theorem rotate_call_inv {args rs : List Bytes}
    (h : call C st ctx "rotateSigners" args = .ok (st', rs, evs)) :
    ∃ s p, args = [s, p] ∧ rotateSigners C st ctx s p = .ok (st', evs) := by
  cases call_ok h with
  | rotate _ ha h => exact ⟨_, _, ha, h⟩
  | approve hf | validate hf | transfer hf | upgrade hf | view hf => simp at hf

theorem call_rotateSigners {s p : Bytes} (h : rotateSigners C st ctx s p = .ok (st', evs)) :
    call C st ctx "rotateSigners" [s, p] = .ok (st', [], evs) := by
  unfold call
  simp only [h]

theorem call_callContract (C : Crypto) (st : State) (ctx : Ctx) (c a p : Bytes) :
    call C st ctx "callContract" [c, a, p] = .ok (st, [], callContract C ctx.caller c a p) := by
  unfold call
  simp only []

theorem validate_call_inv {args rs : List Bytes} (h : call C st ctx "validateMessage" args = .ok (st', rs, evs)) :
    ∃ chain id src ph b, args = [chain, id, src, ph] ∧ ph.length = 32 ∧
      validateMessage C st ctx.caller chain id src ph = (st', b, evs) ∧ rs = [encBool b] := by
  cases call_ok h with
  | validate _ ha hl hr h => exact ⟨_, _, _, _, _, ha, hl, h, hr⟩
  | approve hf | rotate hf | transfer hf | upgrade hf | view hf => simp at hf

theorem isMessageApproved_call {gw gw' : State} {a b c s d : Bytes} {rs : List Bytes}
    (hg : call C gw ctx "isMessageApproved" [a, b, c, s, d] = .ok (gw', rs, evs)) :
    gw' = gw ∧ rs = [encBool (isMessageApproved C gw a b c s d)] := by
  unfold call at hg
  simp only at hg
  split at hg
  · rename_i hs hd
    cases hg
    rw [(topFixed_eq_some.mp hs).2, (topFixed_eq_some.mp hd).2]
    exact ⟨rfl, rfl⟩
  · cases hg

/-- **The frame of a successful call.**  Only `approveMessages` and `validateMessage` write the message
    map; only `transferOperatorship` and `upgradeContract`, called by the operator or the owner, write the
    operator; everything else a call does to the state is a raw rotation.  So what survives these three
    kinds of write survives the call. -/
theorem call_induct {ctx : Ctx} {func : String} (P : State → Prop)
    (hmsg : ∀ {s x}, func = "approveMessages" ∨ func = "validateMessage" → P s → P { s with messages := x })
    (hop : ∀ {s op}, func = "transferOperatorship" ∨ func = "upgradeContract" →
      ctx.caller = st.operator ∨ ctx.caller = ctx.owner → P s → P { s with operator := op })
    (hrot : ∀ {s s' ws enforce evs}, P s → rotateSignersRaw C s ctx.now ws enforce = .ok (s', evs) → P s')
    {args rs : List Bytes} (h : call C st ctx func args = .ok (st', rs, evs)) (hp : P st) : P st' := by
  cases call_ok h with
  | approve hf _ h =>
    obtain ⟨x, rfl⟩ := approveMessages_frame h
    exact hmsg (.inl hf) hp
  | rotate _ _ h =>
    obtain ⟨_, _, _, _, _, _, _, _, hraw⟩ := rotateSigners_eq_ok.mp h
    exact hrot hp hraw
  | @validate chain id src ph b hf _ _ _ h =>
    have hs := validateMessage_spec C st ctx.caller chain id src ph
    simp only [h] at hs
    cases b with
    | true =>
      rw [hs.2.1 rfl]
      exact hmsg (.inr hf) hp
    | false =>
      rwa [(hs.2.2 rfl).1]
  | transfer hf _ _ h =>
    obtain ⟨hauth, _, _, heq⟩ := transferOperatorship_eq_ok h
    cases heq
    exact hop (.inl hf) hauth hp
  | upgrade hf _ hown _ _ h =>
    exact upgrade_induct C ctx.now P (fun _ _ => hop (.inr hf) (.inr hown)) (fun _ _ _ _ => hrot) _ _ _ _ _ hp h
  | view _ h => exact h ▸ hp

theorem stepCall_induct {c : Call} (P : State → Prop) (hp : P st)
    (hcall : ∀ {st' rs evs}, call C st c.ctx c.func c.args = .ok (st', rs, evs) → P st') :
    P (stepCall C st c) := by
  unfold stepCall
  split
  · exact hcall ‹_›
  · exact hp

theorem run_induct (P : State → Prop)
    (hcall : ∀ {st} {c : Call} {st' rs evs}, P st → call C st c.ctx c.func c.args = .ok (st', rs, evs) → P st')
    (cs : List Call) (st : State) (hp : P st) : P (run C st cs) := by
  induction cs generalizing st with
  | nil => exact hp
  | cons c cs ih =>
    rw [run, List.foldl_cons]
    exact ih _ (stepCall_induct P hp (hcall hp))

theorem init_regInv {now : Nat} {args : List Bytes} (hinit : initCall C now args = .ok (st, evs)) :
    RegInv st := by
  unfold initCall at hinit
  split at hinit
  · split at hinit
    · -- `RegInv` reads the registry fields only, and their types do not change when another field is written; but
      -- `RegInv { s with … }` is not `RegInv s` to the elaborator, so the two proofs are packed again
      refine upgrade_induct C now RegInv (fun _ _ h => ⟨h.fwd, h.bwd⟩)
        (fun _ _ _ _ h hr => rotateSignersRaw_regInv h hr) _ _ _ st evs ?_ hinit
      exact ⟨regInv_empty.fwd, regInv_empty.bwd⟩
    · cases hinit
  · cases hinit

/-- the allowed movements of one message entry -/
def Trans (s s' : MsgState) : Prop :=
  s' = s ∨ (s = .nonExistent ∧ ∃ h, s' = .approved h) ∨ (∃ h, s = .approved h ∧ s' = .executed)

theorem Trans.refl (s : MsgState) : Trans s s := Or.inl rfl

theorem Trans.rank_le {s s' : MsgState} (h : Trans s s') : rank s ≤ rank s' := by
  rcases h with rfl | ⟨rfl, h, rfl⟩ | ⟨h, rfl, rfl⟩ <;> simp [rank]

theorem Trans.executed {s' : MsgState} (h : Trans .executed s') : s' = .executed := by
  rcases h with rfl | ⟨⟨⟩, _⟩ | ⟨_, ⟨⟩, _⟩
  rfl

theorem Trans.approved {h : Bytes} {s' : MsgState} (ht : Trans (.approved h) s') :
    s' = .approved h ∨ s' = .executed := by
  rcases ht with rfl | ⟨⟨⟩, _⟩ | ⟨_, _, rfl⟩
  · exact Or.inl rfl
  · exact Or.inr rfl

/-- approvals never touch an existing entry and never execute -/
def ApproveTrans (s s' : MsgState) : Prop := s' = s ∨ (s = .nonExistent ∧ ∃ h, s' = .approved h)

theorem ApproveTrans.trans {a b c : MsgState} (h1 : ApproveTrans a b) (h2 : ApproveTrans b c) :
    ApproveTrans a c := by
  rcases h1 with rfl | ⟨rfl, h, rfl⟩
  · exact h2
  · rcases h2 with rfl | ⟨⟨⟩, _⟩
    exact .inr ⟨rfl, h, rfl⟩

theorem ApproveTrans.eq_of_ne {s s' : MsgState} (h : ApproveTrans s s') (hex : s ≠ .nonExistent) :
    s' = s :=
  h.elim id fun h => absurd h.1 hex

theorem approveMessage_trans (C : Crypto) (st : State) (m : Message) (k : Bytes × Bytes) :
    ApproveTrans (st.messages k) ((approveMessage C st m).1.messages k) := by
  fun_cases approveMessage C st m
  case case1 hne _ =>
    by_cases hk : k = (m.sourceChain, m.messageId)
    · subst hk
      exact .inr ⟨hne, _, upd_same _ _ _⟩
    · exact .inl (upd_other hk _ _)
  case case2 => exact .inl rfl

theorem approveAll_trans (C : Crypto) (st : State) (ms : List Message) (evs : List Ev)
    (k : Bytes × Bytes) : ApproveTrans (st.messages k) ((approveAll C st ms evs).1.messages k) := by
  fun_induction approveAll C st ms evs with
  | case1 => exact .inl rfl
  | case2 st m ms evs st1 e1 heq ih =>
    have := approveMessage_trans C st m k
    rw [heq] at this
    exact this.trans ih

theorem validateMessage_trans (C : Crypto) (st : State) (caller chain id src ph : Bytes) (k : Bytes × Bytes) :
    Trans (st.messages k) ((validateMessage C st caller chain id src ph).1.messages k) := by
  fun_cases validateMessage C st caller chain id src ph
  case case1 _ happ =>
    by_cases hk : k = (chain, id)
    · subst hk
      exact .inr (.inr ⟨_, happ, upd_same _ _ _⟩)
    · exact .inl (upd_other hk _ _)
  case case2 => exact .inl rfl

theorem call_trans {func : String} {args rs : List Bytes} (h : call C st ctx func args = .ok (st', rs, evs))
    (k : Bytes × Bytes) : Trans (st.messages k) (st'.messages k) := by
  cases call_ok h with
  | approve _ _ h =>
    obtain ⟨_, msgs, _, _, _, _, _, he⟩ := approveMessages_eq_ok.mp h
    have := approveAll_trans C st msgs [] k
    rw [← he] at this
    exact this.elim .inl fun h => .inr (.inl h)
  | @validate chain id src ph _ _ _ _ _ h =>
    have := validateMessage_trans C st ctx.caller chain id src ph k
    rwa [h] at this
  | view _ h => exact .inl (congrArg (·.messages k) h)
  | rotate hf | transfer hf | upgrade hf =>
    -- the other endpoints do not write the message map
    refine .inl (call_induct (fun s => s.messages k = st.messages k) (fun hc => by simp [hf] at hc)
      (fun _ _ => id) (fun hs hr => ?_) h rfl)
    obtain ⟨_, _, _, _, rfl, _⟩ := rotateSignersRaw_eq_ok.mp hr
    exact hs

theorem validate_true_result {c : Call} {chain id src ph : Bytes}
    (hres : results C st c = some [encBool true]) (hf : c.func = "validateMessage")
    (ha : c.args = [chain, id, src, ph]) :
    st.messages (chain, id) = .approved (messageHash C chain id src c.ctx.caller ph) ∧
    (stepCall C st c).messages (chain, id) = .executed := by
  unfold results at hres
  unfold stepCall
  split at hres
  · rename_i st' rs evs hcall
    cases hres
    rw [hf, ha] at hcall
    obtain ⟨_, _, _, _, _, hargs, _, hv, hrs⟩ := validate_call_inv hcall
    cases hargs
    cases encBool_inj (List.head_eq_of_cons_eq hrs)
    obtain ⟨h1, h2, _⟩ := validateMessage_spec C st c.ctx.caller chain id src ph
    rw [hv] at h1 h2
    obtain rfl : st' = _ := h2 rfl
    exact ⟨h1.mp rfl, upd_same _ _ _⟩
  · cases hres
end Axelar.Gateway
