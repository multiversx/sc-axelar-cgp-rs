/-
  All-schedules frames: what ANY operation of ANY schedule may do to the world, for any frame
  relation (`step_frame`), and its four instances: the service's storage (`step_change`), the
  life cycle of gateway message entries (`step_life`), the transfer-with-data locks (`step_lock`)
  and the destination-minter approvals (`step_approvals`).
-/
import Axelar.Model.History
import Axelar.Proofs.ItsCall
import Axelar.Proofs.ItsChain
namespace Axelar.World
open Axelar ItsW

/-- the call `src → dst.func` is what operation `op` runs: a transaction, or the real delivery of
    a pending call registered by `src` -/
def Runs (w : World) (op : Op) (src dst : Bytes) (func : String) : Prop :=
  (∃ e es a, op = .tx src dst func e es a) ∨
  (∃ id p, op = .deliver id .real ∧ findPending w.pending id = some p ∧ p.src = src ∧ p.desc.to = dst ∧
    p.desc.func = func)

/-- operation `op` is the callback of a delivered transfer-with-data call for the message `k` -/
def Finishes (w : World) (op : Op) (k : Bytes × Bytes) : Prop :=
  ∃ id p its sa ph tid tok amount, op = .callback id ∧ findPending w.pending id = some p ∧
    p.result.isSome = true ∧ p.kind = .itsExecute its k.1 k.2 sa ph tid tok amount

theorem runIts_frame {R : World → World → Prop} {α : Type} {w : World} {m : M α} [hm : Frame R m] {w' : World}
    {a : α} {r : List Event × List PendDesc} (h : runIts w m = some (a, w', r)) : R w w' := by
  obtain ⟨t', hr, rfl, -⟩ := runIts_eq_some.mp h
  exact hm.h hr

section
variable (C : Crypto) {R : World → World → Prop} [FrameRel R]
open FrameRel

/-- one contract call, whoever makes it: the service's dispatcher when the callee is the service,
    a step outside its storage otherwise -/
theorem callContract_frame {w : World} {src dst : Bytes} {func : String} {egld : Nat}
    {esdt : List (Bytes × Nat × Nat)} {args : List Bytes} {w' : World} {r : List Bytes × List Event × List PendDesc}
    (h : callContract C w src dst func egld esdt args = some (w', r))
    (hits : w.kind dst = some .its → Frame R (call C (itsCtx w src dst egld esdt) func args)) : R w w' := by
  unfold callContract at h
  split at h
  · rename_i hk
    split at h <;> cases h
    rename_i hr
    exact runIts_frame (hm := hits hk) hr
  · exact ext (callOther_ext h)

/-- **Every operation of every schedule moves the world within `R`** — for any frame relation `R`
    that admits what the endpoint calls run by this operation do (`hcall`: a transaction to the
    service, or the delivery of a call to it, with its caller) and the clearing of a
    transfer-with-data lock by the callback of that very delivery (`hexec`).  Payments, deliveries
    to and calls of other contracts, their callbacks and the environment are outside the service's
    storage; the service's other two callbacks are ordinary flows. -/
theorem step_frame [Writes R] (w : World) (op : Op)
    (hcall : ∀ src dst func, Runs w op src dst func → w.kind dst = some .its →
      ∀ e es args, Frame R (call C ⟨src, dst, w.owner dst, e, es⟩ func args))
    (hexec : ∀ k, Finishes w op k → Unlocks R k) :
    R w (step C w op) := by
  -- a payment, then the call of `src → dst.func`, from a world with the kinds and owners of `w`
  have paid_call : ∀ {src dst func e es args w1 w2 r}, Runs w op src dst func → pay w src dst e es = some w1 →
      callContract C w1 src dst func e es args = some (w2, r) → R w w2 := by
    intro src dst func e es args w1 w2 r hr hp hc
    have hb := pay_bal hp
    refine trans (ext hb.ext) (callContract_frame C hc fun hk => ?_)
    rw [itsCtx, hb.owner]
    exact hcall src dst func hr (hb.kind ▸ hk) e es args
  -- a world that differs from `w'` in the list of pending calls only
  have marked : ∀ {w' : World} {ps}, R w w' → R w { w' with pending := ps } := fun h => trans h (ext (.of_eq rfl rfl))
  cases op with
  | env now accts mr br na => exact ext (.of_eq rfl rfl)
  | tx src dst func egld esdt args =>
    show R w (tx C w src dst func egld esdt args).1
    fun_cases tx C w src dst func egld esdt args
    case case2 => exact ext (pay_bal ‹_ = some _›).ext  -- a plain transfer
    case case4 => exact paid_call (.inl ⟨_, _, _, rfl⟩) ‹pay .. = _› ‹callContract .. = _›
    all_goals exact refl _
  | deliver id how =>
    show R w (deliver C w id how).1
    fun_cases deliver C w id how
    case case5 => exact marked (ext (pay_bal ‹_ = some _›).ext)  -- outcome dictated: the callee keeps the payment
    case case7 =>
      exact marked (paid_call (.inr ⟨id, _, rfl, ‹findPending .. = _›, rfl, rfl, rfl⟩) ‹pay .. = _› ‹callContract .. = _›)
    case case8 => exact marked (ext (pay_bal ‹_ = some _›).ext)  -- no contract at the address
    all_goals exact marked (refl _)
  | callback id =>
    show R w (callback C w id).1
    -- the delivered call leaves the list of pending calls, then its callback runs
    have gone : R w (withoutPending w id) := ext (.of_eq rfl rfl)
    fun_cases callback C w id
    case case4 => exact trans gone (ext (tmFinish_ext ‹tmFinish .. = _›))  -- issuance callback of a manager
    case case6 => exact trans gone (ext (govFinish_ext ‹govFinish .. = _›))  -- governance dispatch callback
    case case8 =>  -- transfer-with-data callback
      haveI := hexec (_, _) ⟨id, _, _, _, _, _, _, _, rfl, ‹findPending .. = _›, by rw [‹Pending.result _ = _›]; rfl,
        ‹Pending.kind _ = _›⟩
      exact trans gone (runIts_frame ‹runIts .. = _›)
    case case10 | case12 => exact trans gone (runIts_frame ‹runIts .. = _›)
    case case1 | case2 => exact refl _
    all_goals exact gone

end

theorem run_rel (C : Crypto) {R : World → World → Prop} (refl : ∀ w, R w w) (trans : ∀ {a b c}, R a b → R b c → R a c)
    (h : ∀ w op, R w (step C w op)) (ops : List Op) (w : World) : R w (run C w ops) := by
  induction ops generalizing w with
  | nil => exact refl _
  | cons op ops ih => exact trans (h w op) (ih _)

/-! ### the service's storage -/

/-- configuration of the service: never written after `init` -/
structure SameConfig (s s' : Its.State) : Prop where
  gateway : s'.gateway = s.gateway
  gasService : s'.gasService = s.gasService
  tmImpl : s'.tmImpl = s.tmImpl
  chainName : s'.chainName = s.chainName
  chainNameHash : s'.chainNameHash = s.chainNameHash

/-- what one operation may do to the service's storage: the configuration is never written; a
    token id that has a manager keeps it; the pause flag and the trusted table change only when
    the operation runs one of the four owner operations called by the service's owner; the role
    tables only when it runs one of the three operatorship operations -/
structure ItsChange (w : World) (op : Op) (s s' : Its.State) : Prop where
  config : SameConfig s s'
  tm : ∀ id, s.tmAddress id ≠ [] → s'.tmAddress id = s.tmAddress id
  owner : (s'.paused = s.paused ∧ s'.trusted = s.trusted) ∨
    ∃ src dst func, Runs w op src dst func ∧ w.kind dst = some .its ∧ src = w.owner dst ∧ func ∈ ownerOps
  roles : (s'.roles = s.roles ∧ s'.proposed = s.proposed) ∨
    ∃ src dst func, Runs w op src dst func ∧ w.kind dst = some .its ∧ func ∈ roleOps

theorem ItsChange.of_core {w : World} {op : Op} {s s' : Its.State} (h : Core s s') : ItsChange w op s s' :=
  ⟨⟨h.gateway, h.gasService, h.tmImpl, h.chainName, h.chainNameHash⟩, h.tm, .inl ⟨h.paused, h.trusted⟩,
    .inl ⟨h.roles, h.proposed⟩⟩

theorem SameConfig.trans {a b c : Its.State} (h1 : SameConfig a b) (h2 : SameConfig b c) : SameConfig a c :=
  ⟨h2.gateway.trans h1.gateway, h2.gasService.trans h1.gasService, h2.tmImpl.trans h1.tmImpl,
    h2.chainName.trans h1.chainName, h2.chainNameHash.trans h1.chainNameHash⟩

instance (w : World) (op : Op) : FrameRel (onIts (ItsChange w op)) :=
  .onIts (fun _ => .of_core (.refl _)) fun h1 h2 =>
    ⟨h1.config.trans h2.config,
     writeOnce_trans h1.tm h2.tm,
     h2.owner.elim (fun e2 => h1.owner.imp_left fun e1 => ⟨e2.1.trans e1.1, e2.2.trans e1.2⟩) .inr,
     h2.roles.elim (fun e2 => h1.roles.imp_left fun e1 => ⟨e2.1.trans e1.1, e2.2.trans e1.2⟩) .inr⟩
instance (w : World) (op : Op) : Writes (onIts (ItsChange w op)) := ⟨fun h => .of_core (.of_write h)⟩
instance (C : Crypto) (w : World) (op : Op) (a : Bytes) : Approves C (onIts (ItsChange w op)) a :=
  ⟨.of_core (Approves.approve (R := onIts Core))⟩
instance (w : World) (op : Op) (k : Bytes × Bytes) : Unlocks (onIts (ItsChange w op)) k :=
  ⟨.of_core (Unlocks.unlock (R := onIts Core))⟩

/-- **Every operation of every schedule** changes the service's storage only as `ItsChange` allows
    (what C13, C14 and C20 say over all histories). -/
theorem step_change (C : Crypto) (w : World) (op : Op) : ItsChange w op w.its (step C w op).its := by
  refine step_frame C (R := onIts (ItsChange w op)) w op (fun src dst func hr hk e es args => ?_)
    (fun _ _ => inferInstance)
  refine frame_call C _ func args (fun ho hf _ _ hs => ?_) (fun hf _ _ hs => ?_)
  · exact ⟨⟨hs.gateway, hs.gasService, hs.tmImpl, hs.chainName, hs.chainNameHash⟩, fun _ _ => by rw [hs.tmAddress],
      .inr ⟨src, dst, func, hr, hk, ho, hf⟩, .inl ⟨hs.roles, hs.proposed⟩⟩
  · exact ⟨⟨hs.gateway, hs.gasService, hs.tmImpl, hs.chainName, hs.chainNameHash⟩, fun _ _ => by rw [hs.tmAddress],
      .inl ⟨hs.paused, hs.trusted⟩, .inr ⟨src, dst, func, hr, hk, hf⟩⟩

theorem run_config (C : Crypto) (ops : List Op) (w : World) : SameConfig w.its (run C w ops).its :=
  run_rel C (R := fun w w' => SameConfig w.its w'.its) (fun _ => ⟨rfl, rfl, rfl, rfl, rfl⟩)
    SameConfig.trans
    (fun w op => (step_change C w op).config) ops w

/-! ### the gateway's message entries in the composed world (C02, C04) -/

/-- `Life` of the gateway, as the relation on worlds that `Frame` asks for -/
def GwLife (w w' : World) : Prop := Life w.gw w'.gw

instance : FrameRel GwLife := ⟨Life.trans, Ext.life⟩
-- nothing the service writes to its own storage touches the gateway
instance : Writes GwLife := ⟨fun _ => Life.refl _⟩
instance (C : Crypto) (a : Bytes) : Approves C GwLife a := ⟨Life.refl _⟩
instance (k : Bytes × Bytes) : Unlocks GwLife k := ⟨Life.refl _⟩

end Axelar.World

namespace Axelar.ItsW
open Axelar World

/-- `m` does not touch the gateway at all -/
class GwSame {α : Type} (m : M α) : Prop where
  h : ∀ t a t', m t = some (a, t') → t'.w.gw = t.w.gw

instance GwSame.frame {α : Type} {m : M α} [hs : GwSame m] : Frame GwLife m := ⟨fun h => Life.of_eq (hs.h _ _ _ h)⟩

instance gws_getW : GwSame getW := by
  refine ⟨?_⟩; intro t a t' h; simp only [run_getW, Option.some.injEq, Prod.mk.injEq] at h; rw [← h.2]

end Axelar.ItsW

namespace Axelar.World
open Axelar ItsW

/-- **Every operation of every schedule** moves gateway message entries only along their life
    cycle: `executed` is absorbing, an approval is only ever replaced by `executed`. -/
theorem step_life (C : Crypto) (w : World) (op : Op) : Life w.gw (step C w op).gw :=
  step_frame C (R := GwLife) w op
    (fun _ _ func _ _ _ _ args => frame_call C _ func args (fun _ _ _ _ _ => Life.refl _) (fun _ _ _ _ => Life.refl _))
    (fun _ _ => inferInstance)

theorem run_life (C : Crypto) (ops : List Op) (w : World) : Life w.gw (run C w ops).gw :=
  run_rel C (R := GwLife) (fun _ => Life.refl _) Life.trans (step_life C) ops w

theorem run_executed (C : Crypto) (ops : List Op) {w : World} {k : Bytes × Bytes} (he : w.gw.messages k = .executed) :
    (run C w ops).gw.messages k = .executed :=
  (run_life C ops w).executed he

end Axelar.World

/-! ### transfer-with-data locks (C08) -/

namespace Axelar.ItsW
open Axelar Codec Its World

/-- every set lock stays set, except possibly those that `D` excuses -/
def LockRel (D : Bytes × Bytes → Prop) (s s' : Its.State) : Prop :=
  ∀ k, s.lock k = true → s'.lock k = true ∨ D k

theorem LockRel.of_eq {D : Bytes × Bytes → Prop} {s s' : Its.State} (h : s'.lock = s.lock) : LockRel D s s' :=
  fun _ hk => Or.inl (h ▸ hk)

variable (D : Bytes × Bytes → Prop)

instance : FrameRel (onIts (LockRel D)) :=
  .onIts (fun _ => .of_eq rfl) fun h1 h2 k hk => (h1 k hk).elim (h2 k) Or.inr

instance : Writes (onIts (LockRel D)) := ⟨fun h => by
  cases h with
  | bind | unapprove => exact .of_eq rfl
  | lock k0 =>
    intro k hk
    by_cases e : k = k0
    · exact Or.inl (by simp [upd, e])
    · exact Or.inl (by simpa [upd, e] using hk)⟩

instance (C : Crypto) (a : Bytes) : Approves C (onIts (LockRel D)) a := ⟨.of_eq rfl⟩

theorem LockRel.unlocks {k0 : Bytes × Bytes} (h : D k0) : Unlocks (onIts (LockRel D)) k0 := ⟨fun k hk => by
  by_cases e : k = k0
  · exact Or.inr (e ▸ h)
  · exact Or.inl (by simpa [upd, e] using hk)⟩

end Axelar.ItsW

namespace Axelar.World
open Axelar ItsW Its

/-- **Every operation of every schedule** leaves a set lock set — except the callback of a
    delivery of that very message. -/
theorem step_lock (C : Crypto) {w : World} (op : Op) {k : Bytes × Bytes} (hk : w.its.lock k = true) :
    (step C w op).its.lock k = true ∨ Finishes w op k :=
  step_frame C (R := onIts (LockRel (Finishes w op))) w op
    (fun _ _ func _ _ _ _ args => frame_call C _ func args (fun _ _ _ _ hs => .of_eq hs.lock) (fun _ _ _ hs => .of_eq hs.lock))
    (fun _ => LockRel.unlocks _) k hk

end Axelar.World

/-! ### destination-minter approvals (C19) -/

namespace Axelar.ItsW
open Axelar Codec Its World

/-- every approval entry is unchanged, cleared, or one of the entries that `D` excuses -/
def ApprRel (D : Bytes → Prop) (s s' : Its.State) : Prop :=
  ∀ key, s'.approvedMinters key = s.approvedMinters key ∨ s'.approvedMinters key = [] ∨ D key

theorem ApprRel.of_eq {D : Bytes → Prop} {s s' : Its.State} (h : s'.approvedMinters = s.approvedMinters) :
    ApprRel D s s' :=
  fun _ => Or.inl (by rw [h])

variable (D : Bytes → Prop)

instance : FrameRel (onIts (ApprRel D)) :=
  .onIts (fun _ => .of_eq rfl) fun h1 h2 key => by
    rcases h2 key with e2 | e2 | e2
    · exact (h1 key).imp (e2.trans ·) (.imp_left (e2.trans ·))
    · exact Or.inr (Or.inl e2)
    · exact Or.inr (Or.inr e2)

instance : Writes (onIts (ApprRel D)) := ⟨fun h => by
  cases h with
  | bind | lock => exact .of_eq rfl
  | unapprove key0 =>
    intro key
    by_cases e : key = key0
    · exact Or.inr (Or.inl (by simp [upd, e]))
    · exact Or.inl (by simp [upd, e])⟩

instance (k : Bytes × Bytes) : Unlocks (onIts (ApprRel D)) k := ⟨.of_eq rfl⟩

/-- an approval may be written under the keys derived from `a` when `D` excuses them all -/
theorem ApprRel.approves (C : Crypto) {a : Bytes} (h : ∀ tid chain, D (deployApprovalKey C a tid chain)) :
    Approves C (onIts (ApprRel D)) a := ⟨fun {w tid chain v} key => by
  by_cases e : key = deployApprovalKey C a tid chain
  · exact Or.inr (Or.inr (e ▸ h tid chain))
  · exact Or.inl (by simp [upd, e])⟩

end Axelar.ItsW

namespace Axelar.World
open Axelar ItsW Its

/-- the keys under which operation `op` may write an approval: those derived from the address of
    the account whose call to the service it runs -/
def AuthorKey (C : Crypto) (w : World) (op : Op) (key : Bytes) : Prop :=
  ∃ src dst func tid chain, Runs w op src dst func ∧ w.kind dst = some .its ∧ key = deployApprovalKey C src tid chain

/-- **Every operation of every schedule**: an approval entry either keeps its value, or is
    cleared, or is written under a key derived from the address of the account whose call the
    operation runs (a transaction of that account, or the delivery of a call it registered). -/
theorem step_approvals (C : Crypto) (w : World) (op : Op) (key : Bytes) :
    (step C w op).its.approvedMinters key = w.its.approvedMinters key ∨
    (step C w op).its.approvedMinters key = [] ∨ AuthorKey C w op key :=
  step_frame C (R := onIts (ApprRel (AuthorKey C w op))) w op
    (fun src dst func hr hk _ _ args =>
      haveI := ApprRel.approves (AuthorKey C w op) C fun tid chain => ⟨src, dst, func, tid, chain, hr, hk, rfl⟩
      frame_call C _ func args (fun _ _ _ _ hs => .of_eq hs.approvedMinters) (fun _ _ _ hs => .of_eq hs.approvedMinters))
    (fun _ _ => inferInstance)
    key

end Axelar.World
