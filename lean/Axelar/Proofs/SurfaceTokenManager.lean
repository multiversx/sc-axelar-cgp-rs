/-
  The token manager's entry points and storage mappers as regenerated from the sources on every run
  (`Generated/Surface.lean`), against the surface the model implements (see SurfaceDefs.lean); and the link
  back from the model's dispatcher: a call that changes storage, moves tokens or registers an issuance is an
  endpoint of that table.
-/
import Axelar.Proofs.SurfaceLemmas
import Axelar.Proofs.TokenManagerProofs
namespace Axelar.Surface
open Axelar Generated

def tokenManagerExpected : List (String × String × Bool × String × Nat) := [
  ("callback", "deploy_token_callback", false, "", 0),
  ("endpoint", "acceptMintership", false, "", 1),
  ("endpoint", "acceptOperatorship", false, "", 1),
  ("endpoint", "addFlowLimiter", false, "", 1),
  ("endpoint", "burn", false, "*", 0),
  ("endpoint", "deployInterchainToken", false, "EGLD", 4),
  ("endpoint", "giveToken", false, "", 2),
  ("endpoint", "mint", false, "", 2),
  ("endpoint", "proposeMintership", false, "", 1),
  ("endpoint", "proposeOperatorship", false, "", 1),
  ("endpoint", "removeFlowLimiter", false, "", 1),
  ("endpoint", "setFlowLimit", false, "", 1),
  ("endpoint", "takeToken", false, "*", 0),
  ("endpoint", "transferFlowLimiter", false, "", 2),
  ("endpoint", "transferMintership", false, "", 1),
  ("endpoint", "transferOperatorship", false, "", 1),
  ("init", "init", false, "", 4),
  ("upgrade", "upgrade", false, "", 4)]

theorem tokenManager_surface : tokenManagerSurface.map sig = tokenManagerExpected := by rfl

theorem tokenManager_storage_no_alias : noAlias tokenManagerStorage = true ∧ keysNodup tokenManagerStorage = true :=
  no_alias_of_pairwise (by decide +kernel)

/-- the storage mappers of the contract are exactly the fields the model's state has (a mapper the model does not know
    is state the theorems do not cover; the harness emulates its absence on contracts deployed by earlier code: `wipe`) -/
theorem tokenManager_storage_keys : tokenManagerStorage.map (·.key) = ["account_roles", "flow_in_amount", "flow_limit", "flow_out_amount", "implementation_type", "interchain_token_id", "interchain_token_service", "proposed_roles", "token_identifier"] := by rfl

open TokenManager

/-- **The model changes a token manager's storage, moves tokens or registers an issuance only through an
    endpoint of the regenerated surface.** -/
theorem tokenManager_effects_only_through_surface (st : State) (ctx : Ctx) (func : String)
    (args : List Bytes) (out : Out) (h : call st ctx func args = .ok out)
    (hne : out.st ≠ st ∨ out.effects ≠ [] ∨ out.issue ≠ none) :
    ∃ e ∈ Generated.tokenManagerSurface, e.kind = "endpoint" ∧ e.name = func := by
  cases call_ok h with
  | giveToken hf | takeToken hf | setFlowLimit hf | mint hf | burn hf | deploy hf =>
    subst hf
    decide
  | role hr =>
    cases hr
    all_goals decide
  | view _ hv =>
    obtain ⟨h1, h2, h3⟩ := view_eq_ok hv
    exact hne.elim (absurd h1) (·.elim (absurd h2) (absurd h3))

end Axelar.Surface
