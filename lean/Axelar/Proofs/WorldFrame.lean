/-
  What the chain and the contracts other than the token service can do to the world: payments,
  sends and effects change balances only (`BalOnly`); no step outside the service touches the
  service's storage, and gateway message entries move only along their life cycle (`Ext`: the
  two components the all-schedules theorems are about).  Last, what a call to a gateway, a gas
  service or a token manager is (the callees of the service's own sub-calls).
-/
import Axelar.Model.World
import Axelar.Proofs.GatewayProofs
namespace Axelar.World
open Axelar

/-- only account balances differ: one equation and not a conjunction over the fields, so that `w'` can be
    substituted away (`exists_accts`) -/
def BalOnly (w w' : World) : Prop := w' = { w with accts := w'.accts }

/-- after `obtain ⟨a, rfl⟩`, every other field of `w'` is that of `w` by reduction -/
theorem BalOnly.exists_accts {w w' : World} (h : BalOnly w w') : ∃ a, w' = { w with accts := a } := ⟨_, h⟩
theorem BalOnly.trans {a b c : World} (h1 : BalOnly a b) (h2 : BalOnly b c) : BalOnly a c := by
  unfold BalOnly at *; rw [h2, h1]
theorem BalOnly.gw {w w' : World} (h : BalOnly w w') : w'.gw = w.gw := by rw [h]
theorem BalOnly.kind {w w' : World} (h : BalOnly w w') : w'.kind = w.kind := by rw [h]
theorem BalOnly.mintRole {w w' : World} (h : BalOnly w w') : w'.mintRole = w.mintRole := by rw [h]
theorem BalOnly.burnRole {w w' : World} (h : BalOnly w w') : w'.burnRole = w.burnRole := by rw [h]
theorem BalOnly.tms {w w' : World} (h : BalOnly w w') : w'.tms = w.tms := by rw [h]
theorem BalOnly.now {w w' : World} (h : BalOnly w w') : w'.now = w.now := by rw [h]
theorem BalOnly.its {w w' : World} (h : BalOnly w w') : w'.its = w.its := by rw [h]
theorem BalOnly.gs {w w' : World} (h : BalOnly w w') : w'.gs = w.gs := by rw [h]
theorem BalOnly.owner {w w' : World} (h : BalOnly w w') : w'.owner = w.owner := by rw [h]

theorem subEgld_bal {w w' : World} {a : Bytes} {n : Nat} (h : subEgld w a n = some w') : BalOnly w w' := by
  simp only [subEgld] at h
  split at h <;> cases h
  rfl
theorem subEsdt_bal {w w' : World} {a t : Bytes} {n : Nat} (h : subEsdt w a t n = some w') : BalOnly w w' := by
  simp only [subEsdt] at h
  split at h <;> cases h
  rfl
theorem addEgld_bal (w : World) (a : Bytes) (n : Nat) : BalOnly w (addEgld w a n) := rfl
theorem addEsdt_bal (w : World) (a t : Bytes) (n : Nat) : BalOnly w (addEsdt w a t n) := rfl

theorem send_bal {w w' : World} {src dst : Bytes} {tok : Option Bytes} {n : Nat}
    (h : send w src dst tok n = some w') : BalOnly w w' := by
  cases tok <;> simp only [send, Option.map_eq_some_iff] at h <;> obtain ⟨w0, h0, rfl⟩ := h
  · exact (subEgld_bal h0).trans (addEgld_bal _ _ _)
  · exact (subEsdt_bal h0).trans (addEsdt_bal _ _ _ _)

theorem pay_nil (w : World) (src dst : Bytes) (e : Nat) : pay w src dst e [] = send w src dst none e := by
  simp only [pay, send]
  cases subEgld w src e <;> rfl

theorem pay_cons (w : World) (src dst : Bytes) (e : Nat) (tok : Bytes) (n amt : Nat) (l : List (Bytes × Nat × Nat)) :
    pay w src dst e ((tok, n, amt) :: l) =
      (send w src dst (some (esdtKey tok n)) amt).bind fun w' => pay w' src dst e l := by
  simp only [pay, send]
  cases subEsdt w src (esdtKey tok n) amt <;> rfl

theorem pay_bal {src dst : Bytes} {e : Nat} {l : List (Bytes × Nat × Nat)} {w w' : World}
    (h : pay w src dst e l = some w') : BalOnly w w' := by
  induction l generalizing w with
  | nil =>
    rw [pay_nil] at h
    exact send_bal h
  | cons x l ih =>
    obtain ⟨tok, n, amt⟩ := x
    rw [pay_cons] at h
    obtain ⟨w1, h1, h2⟩ := Option.bind_eq_some_iff.mp h
    exact (send_bal h1).trans (ih h2)

theorem pay_zero_eq {src dst : Bytes} {w w' : World} (h : pay w src dst 0 [] = some w') : w' = w := by
  simp only [pay, subEgld, Nat.zero_le, ge_iff_le, if_true, addEgld, Nat.sub_zero, Nat.add_zero, Option.some.injEq] at h
  rw [← h]
  simp only [upd_self]

theorem applySends_bal {l : List GasService.Send} {a b : World} {x : Bytes}
    (h : applySends a x l = some b) : BalOnly a b := by
  induction l generalizing a with
  | nil => cases h; rfl
  | cons s l ih =>
    simp only [applySends] at h
    split at h
    · rename_i hs
      exact (send_bal hs).trans (ih h)
    · cases h

theorem applyEffects_bal {l : List TokenManager.Eff} {a b : World} {x : Bytes}
    (h : applyEffects a x l = some b) : BalOnly a b := by
  induction l generalizing a with
  | nil => cases h; rfl
  | cons s l ih =>
    cases s <;> simp only [applyEffects] at h <;> split at h
    · rename_i hs
      exact (send_bal hs).trans (ih h)
    · cases h
    · exact (addEsdt_bal _ _ _ _).trans (ih h)
    · cases h
    · cases h
    · split at h
      · rename_i hs
        exact (subEsdt_bal hs).trans (ih h)
      · cases h

/-- `executed` is absorbing; an approval is only ever replaced by `executed`.  (The transitive
    closure of `Gateway.Trans`, which is the movement of one endpoint call and does not compose:
    non-existent → approved → executed.) -/
def Life (g g' : Gateway.State) : Prop :=
  ∀ k, (g.messages k = .executed → g'.messages k = .executed) ∧
       (∀ h, g.messages k = .approved h → g'.messages k = .approved h ∨ g'.messages k = .executed)

theorem Life.refl (g : Gateway.State) : Life g g := fun _ => ⟨id, fun _ h => Or.inl h⟩
theorem Life.of_eq {g g' : Gateway.State} (h : g' = g) : Life g g' := h ▸ Life.refl g
theorem Life.trans {a b c : Gateway.State} (h1 : Life a b) (h2 : Life b c) : Life a c := by
  intro k
  refine ⟨fun h => (h2 k).1 ((h1 k).1 h), fun hh h => ?_⟩
  rcases (h1 k).2 hh h with h' | h'
  · exact (h2 k).2 hh h'
  · exact Or.inr ((h2 k).1 h')

theorem Life.executed {g g' : Gateway.State} (h : Life g g') {k : Bytes × Bytes} (he : g.messages k = .executed) :
    g'.messages k = .executed :=
  (h k).1 he

theorem Life.of_trans {g g' : Gateway.State} (h : ∀ k, Gateway.Trans (g.messages k) (g'.messages k)) :
    Life g g' :=
  fun k => ⟨fun he => (he ▸ h k).executed, fun _ ha => (ha ▸ h k).approved⟩

/-- a governance command leaves the gateway as its validation of the command left it -/
theorem governance_execute_gw {C : Crypto} {st st' : Governance.State} {gw gw' : Gateway.State} {ctx : Governance.Ctx}
    {a b c d : Bytes} {e1 e2 : List Ev} (h : Governance.execute C st gw ctx a b c d = .ok (st', gw', e1, e2)) :
    gw' = (Gateway.validateMessage C gw ctx.self a b c (C.H d)).1 := by
  revert h
  fun_cases Governance.execute C st gw ctx a b c d
  case case6 =>
    rintro ⟨⟩
    rw [‹Gateway.validateMessage .. = _›]
  all_goals rintro ⟨⟩

/-- `w'` has the token service's storage of `w`, and its gateway entries are those of `w` moved
    along their life cycle.  Every step that is not the service's own code is of this kind. -/
structure Ext (w w' : World) : Prop where
  its : w'.its = w.its
  life : Life w.gw w'.gw

theorem Ext.refl (w : World) : Ext w w := ⟨rfl, Life.refl _⟩
theorem Ext.trans {a b c : World} (h1 : Ext a b) (h2 : Ext b c) : Ext a c :=
  ⟨h2.its.trans h1.its, h1.life.trans h2.life⟩
theorem Ext.of_eq {w w' : World} (hi : w'.its = w.its) (hg : w'.gw = w.gw) : Ext w w' := ⟨hi, Life.of_eq hg⟩
theorem BalOnly.ext {w w' : World} (h : BalOnly w w') : Ext w w' := .of_eq h.its h.gw

theorem tmFinish_ext {w : World} {dst : Bytes} {out : TokenManager.Out} {w' : World} {r : List Bytes × List Event × List PendDesc}
    (h : tmFinish w dst out = some (w', r)) : Ext w w' := by
  unfold tmFinish at h
  split at h
  · cases h
  · rename_i he
    have hb := applyEffects_bal he
    split at h <;> cases h <;> exact .of_eq hb.its hb.gw

theorem govFinish_ext {w : World} {dst : Bytes} {out : Governance.Out} {pre : List Event} {w' : World}
    {r : List Bytes × List Event × List PendDesc} (h : govFinish w dst out pre = some (w', r)) : Ext w w' := by
  unfold govFinish at h
  split at h
  · cases h
  · rename_i hs
    have hb := applySends_bal hs
    split at h <;> cases h <;> exact .of_eq hb.its hb.gw

theorem callOther_ext {C : Crypto} {w : World} {src dst : Bytes} {f : String} {e : Nat}
    {es : List (Bytes × Nat × Nat)} {args : List Bytes} {w' : World} {r : List Bytes × List Event × List PendDesc}
    (h : callOther C w src dst f e es args = some (w', r)) : Ext w w' := by
  revert h
  fun_cases callOther C w src dst f e es args
  case case2 hg => rintro ⟨⟩; exact ⟨rfl, Life.of_trans (Gateway.call_trans hg)⟩  -- gateway
  case case4 hs _ => rintro ⟨⟩; exact .of_eq (applySends_bal hs).its (applySends_bal hs).gw  -- gas service
  case case7 => exact tmFinish_ext  -- token manager
  case case9 => rintro ⟨⟩; exact .refl _  -- governance: upgrade
  case case13 hx =>  -- governance: command
    rintro ⟨⟩
    cases governance_execute_gw hx
    exact ⟨rfl, .of_trans (Gateway.validateMessage_trans _ _ _ _ _ _ _)⟩
  case case16 => exact govFinish_ext  -- governance: endpoint
  all_goals rintro ⟨⟩

section
variable {C : Crypto} {w w' : World} {src dst : Bytes} {f : String} {e : Nat} {es : List (Bytes × Nat × Nat)}
  {args rs : List Bytes} {evs : List Event} {pd : List PendDesc}

theorem callOther_gateway (h : callOther C w src dst f e es args = some (w', rs, evs, pd))
    (hk : w.kind dst = some .gateway) :
    e = 0 ∧ es = [] ∧ ∃ gw' gevs, Gateway.call C w.gw ⟨src, w.owner dst, w.now⟩ f args = .ok (gw', rs, gevs) ∧
      w' = { w with gw := gw' } ∧ evs = stamp dst gevs ∧ pd = [] := by
  unfold callOther at h
  rw [hk] at h
  simp only at h
  split at h
  · cases h
  · rename_i hz
    simp only [ne_eq, Bool.or_eq_true, decide_eq_true_eq, Bool.not_eq_eq_eq_not, Bool.not_true, not_or,
      Decidable.not_not, Bool.not_eq_false, List.isEmpty_iff] at hz
    split at h <;> cases h
    rename_i hg
    exact ⟨hz.1, hz.2, _, _, hg, rfl, rfl, rfl⟩

theorem callOther_gasService (h : callOther C w src dst f e es args = some (w', rs, evs, pd))
    (hk : w.kind dst = some .gasService) :
    ∃ out, GasService.call C w.gs ⟨src, w.owner dst, e, es, balanceOf w dst⟩ f args = .ok out ∧
      applySends { w with gs := out.st } dst out.sends = some w' ∧
      rs = out.results ∧ evs = stamp dst out.events ∧ pd = [] := by
  unfold callOther at h
  rw [hk] at h
  simp only at h
  split at h
  · rename_i out hc
    split at h <;> cases h
    rename_i hs
    exact ⟨out, hc, hs, rfl, rfl, rfl⟩
  · cases h

theorem callOther_tokenManager (h : callOther C w src dst f e es args = some (w', rs, evs, pd))
    (hk : w.kind dst = some .tokenManager) :
    ∃ out, TokenManager.call (w.tms dst) ⟨src, dst, w.now, e, es⟩ f args = .ok out ∧
      tmFinish w dst out = some (w', rs, evs, pd) := by
  unfold callOther at h
  rw [hk] at h
  simp only at h
  split at h
  · rename_i out hc
    exact ⟨out, hc, h⟩
  · cases h

theorem tmFinish_eq_some {out : TokenManager.Out} (h : tmFinish w dst out = some (w', rs, evs, pd)) :
    ∃ w2, applyEffects { w with tms := upd w.tms dst out.st } dst out.effects = some w2 ∧
      w' = { w2 with pending := w'.pending, nextPending := w'.nextPending } ∧
      rs = out.results ∧ evs = stamp dst out.events ∧ (out.issue = none → w' = w2 ∧ pd = []) := by
  unfold tmFinish at h
  split at h
  · cases h
  · rename_i w2 he
    refine ⟨w2, he, ?_⟩
    split at h <;> cases h
    · exact ⟨rfl, rfl, rfl, fun _ => ⟨rfl, rfl⟩⟩
    · rename_i hi
      exact ⟨rfl, rfl, rfl, fun e => nomatch hi.symm.trans e⟩

end

end Axelar.World
