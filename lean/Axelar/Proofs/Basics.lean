/-
  Small facts about what every contract model uses: the guards of an endpoint written in `Except`,
  the hash parameter (equal or a collision), the functional map update `upd`, and the top-level
  argument codec.
-/
import Axelar.Model.Gateway
import Axelar.Proofs.BytesLemmas
namespace Axelar

/-! ### guards in `Except`

  Used with `obtain` on a hypothesis `… = .ok v`, these take one `if` apart by unification, where
  `split at h` would re-simplify the whole hypothesis (and fails under `have` / `let` binders). -/

theorem ite_error_eq_ok {ε α : Type} {c : Prop} [Decidable c] {e : ε} {x : Except ε α} {v : α} :
    (if c then .error e else x) = .ok v ↔ ¬c ∧ x = .ok v := by
  split <;> simp [*]

theorem ite_else_error_eq_ok {ε α : Type} {c : Prop} [Decidable c] {e : ε} {x : Except ε α} {v : α} :
    (if c then x else .error e) = .ok v ↔ c ∧ x = .ok v := by
  split <;> simp [*]

theorem exists_error_of_ne_ok {ε α : Type} {x : Except ε α} (h : ∀ v, x ≠ .ok v) : ∃ e, x = .error e :=
  match x, h with
  | .error e, _ => ⟨e, rfl⟩
  | .ok v, h => absurd rfl (h v)

/-- Equal hashes come from equal inputs, or the two inputs are a collision of `H`: every
    "collision-or-equal" binding theorem is this plus the injectivity of an encoder. -/
theorem Crypto.eq_or_collision (C : Crypto) {x y : Bytes} (h : C.H x = C.H y) :
    x = y ∨ ∃ a b, a ≠ b ∧ C.H a = C.H b :=
  if he : x = y then .inl he else .inr ⟨x, y, he, h⟩

theorem upd_same {α β : Type} [DecidableEq α] (f : α → β) (a : α) (b : β) : upd f a b a = b :=
  if_pos rfl

theorem upd_other {α β : Type} [DecidableEq α] {a x : α} (h : x ≠ a) (f : α → β) (b : β) :
    upd f a b x = f x :=
  if_neg h

theorem upd_self {α β : Type} [DecidableEq α] (f : α → β) (a : α) : upd f a (f a) = f :=
  funext fun _ => ite_eq_right_iff.mpr fun h => congrArg f h.symm

theorem upd_add {α : Type} [DecidableEq α] (f : α → Nat) (a : α) (n : Nat) (x : α) :
    upd f a (f a + n) x = f x + if x = a then n else 0 := by
  unfold upd
  split
  · subst x
    rfl
  · rfl

end Axelar

namespace Axelar.Codec
open Axelar

theorem topFixed_eq_some {n : Nat} {bs b : Bytes} : topFixed n bs = some b ↔ bs.length = n ∧ b = bs := by
  rw [topFixed, Option.ite_none_right_eq_some, Option.some.injEq, eq_comm (a := bs)]

/-- past the decoding of a fixed-size argument of an endpoint that has succeeded -/
theorem topFixed_match {ε α : Type} {n : Nat} {a : Bytes} {F : Bytes → Except ε α} {e : ε} {v : α}
    (h : (match topFixed n a with | some a => F a | none => .error e) = .ok v) : F a = .ok v := by
  by_cases hl : a.length = n
  · rwa [topFixed, if_pos hl] at h
  · rw [topFixed, if_neg hl] at h
    cases h

theorem topBig_encNat (n : Nat) : topBig (encNat n) = n := beNat_natBE n

theorem encBool_inj {a b : Bool} (h : encBool a = encBool b) : a = b := by
  cases a <;> cases b <;> simp [encBool] at h ⊢

theorem encBool_beq_true (a : Bool) : (encBool a == encBool true) = a := by cases a <;> rfl

end Axelar.Codec
