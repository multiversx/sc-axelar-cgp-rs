/-
  The operations of the chain that run the token service's code, opened once: a successful
  transaction to the service is a payment followed by a run of its dispatcher; a successful
  callback of one of its pending calls is a run of that callback in the world without the call;
  and what the dispatcher is at the endpoints whose transactions the properties follow.
-/
import Axelar.Model.Chain
import Axelar.Proofs.ItsMonad
namespace Axelar.World
open Axelar ItsW

theorem runIts_eq_some {α : Type} {w : World} {m : M α} {a : α} {w' : World} {evs : List Event} {pd : List PendDesc} :
    runIts w m = some (a, w', evs, pd) ↔ ∃ t', m { w := w } = some (a, t') ∧ t'.w = w' ∧ t'.evs = evs ∧ t'.pend = pd := by
  unfold runIts
  cases m { w := w } with
  | none => simp
  | some x =>
    obtain ⟨a', t'⟩ := x
    constructor
    · intro h; cases h; exact ⟨t', rfl, rfl, rfl, rfl⟩
    · rintro ⟨_, h, rfl, rfl, rfl⟩; cases h; rfl

/-- **A successful transaction to the token service** is the payment — which changes account
    balances only — then a successful run of the dispatcher in the world after the payment; the
    transaction's world, events and registered calls are those of that run. -/
theorem tx_its {C : Crypto} {w w' : World} {src dst : Bytes} {func : String} {e : Nat}
    {es : List (Bytes × Nat × Nat)} {args rs : List Bytes} {evs : List Event} {pd : List PendDesc}
    (h : tx C w src dst func e es args = (w', .ok rs evs pd)) (hk : w.kind dst = some .its) :
    ∃ a t', pay w src dst e es = some { w with accts := a } ∧
      call C (itsCtx w src dst e es) func args { w := { w with accts := a } } = some (rs, t') ∧
      t'.w = w' ∧ t'.evs = evs ∧ t'.pend = pd := by
  unfold tx at h
  split at h
  · cases h
  · rename_i w1 hp
    obtain ⟨a, rfl⟩ := (pay_bal hp).exists_accts
    simp only [hk, callContract] at h
    split at h
    · rename_i hr
      split at hr <;> cases hr
      rename_i hr
      cases h
      obtain ⟨t', ht'⟩ := runIts_eq_some.mp hr
      exact ⟨a, t', hp, ht'⟩
    · cases h

/-- a transaction either succeeds or fails as a whole, leaving the world as it was -/
theorem tx_fail_of_not_ok {C : Crypto} {w : World} {src dst : Bytes} {func : String} {e : Nat}
    {es : List (Bytes × Nat × Nat)} {args : List Bytes}
    (h : ∀ w' rs evs pd, tx C w src dst func e es args ≠ (w', .ok rs evs pd)) :
    tx C w src dst func e es args = (w, .fail) := by
  generalize hr : tx C w src dst func e es args = r at h
  unfold tx at hr
  split at hr
  · exact hr.symm
  · split at hr <;> split at hr
    · exact absurd hr.symm (h _ _ _ _)
    · exact hr.symm
    · exact absurd hr.symm (h _ _ _ _)
    · exact hr.symm

/-- past the `onlyEgld` guard of an endpoint called by a transaction -/
theorem esdt_nil_of_onlyEgld {w : World} {src dst : Bytes} {e : Nat} {es : List (Bytes × Nat × Nat)}
    (h : ¬(!onlyEgld (itsCtx w src dst e es)) = true) : es = [] := by
  simpa [onlyEgld, itsCtx] using h

/-- the world in which the callback of pending call `id` runs -/
def withoutPending (w : World) (id : Nat) : World := { w with pending := w.pending.filter (·.desc.id != id) }

/-- **The callback of a delivered call of the service** is a run of the corresponding callback
    flow in the world without that pending call: one statement per kind of call. -/
theorem callback_itsExecute {C : Crypto} {w w' : World} {id : Nat} {p : Pending} {its sc mid sa ph tid tok : Bytes}
    {amount : Nat} {ok : Bool} {vals rs : List Bytes} {evs : List Event} {pd : List PendDesc}
    (h : callback C w id = (w', .ok rs evs pd)) (hp : findPending w.pending id = some p)
    (hr : p.result = some (ok, vals)) (hk : p.kind = .itsExecute its sc mid sa ph tid tok amount) :
    ∃ t', executeWithTokenCallback C (itsCtx (withoutPending w id) p.desc.to its 0 []) sc mid sa ph tid tok amount ok
      { w := withoutPending w id } = some ((), t') ∧ t'.w = w' := by
  simp only [callback, hp, hr, hk] at h
  split at h <;> cases h
  rename_i hr
  obtain ⟨t', hm, h1, _⟩ := runIts_eq_some.mp hr
  exact ⟨t', hm, h1⟩

theorem callback_itsMetadata {C : Crypto} {w w' : World} {id : Nat} {p : Pending} {its tok : Bytes} {gas : Nat}
    {caller : Bytes} {ok : Bool} {vals rs : List Bytes} {evs : List Event} {pd : List PendDesc}
    (h : callback C w id = (w', .ok rs evs pd)) (hp : findPending w.pending id = some p)
    (hr : p.result = some (ok, vals)) (hk : p.kind = .itsMetadata its tok gas caller) :
    ∃ t', registerTokenMetadataCallback C (itsCtx (withoutPending w id) esdtSystemSc its 0 []) tok gas caller ok vals
      { w := withoutPending w id } = some ((), t') ∧ t'.w = w' := by
  simp only [callback, hp, hr, hk] at h
  split at h <;> cases h
  rename_i hr
  obtain ⟨t', hm, h1, _⟩ := runIts_eq_some.mp hr
  exact ⟨t', hm, h1⟩

theorem callback_itsDeployRemote {C : Crypto} {w w' : World} {id : Nat} {p : Pending} {its salt chain sym dm : Bytes}
    {gas : Nat} {caller : Bytes} {ok : Bool} {vals rs : List Bytes} {evs : List Event} {pd : List PendDesc}
    (h : callback C w id = (w', .ok rs evs pd)) (hp : findPending w.pending id = some p)
    (hr : p.result = some (ok, vals)) (hk : p.kind = .itsDeployRemote its salt chain sym dm gas caller) :
    ∃ t', deployRemoteTokenCallback C (itsCtx (withoutPending w id) esdtSystemSc its 0 []) salt chain sym dm gas caller
      ok vals { w := withoutPending w id } = some ((), t') ∧ t'.w = w' := by
  simp only [callback, hp, hr, hk] at h
  split at h <;> cases h
  rename_i hr
  obtain ⟨t', hm, h1, _⟩ := runIts_eq_some.mp hr
  exact ⟨t', hm, h1⟩

end Axelar.World

namespace Axelar.ItsW
open Axelar Codec Its

theorem call_execute (C : Crypto) (cx : ICtx) (sc mid sa payload : Bytes) :
    call C cx "execute" [sc, mid, sa, payload] =
      (do let _ ← getI
          unit (execute C cx sc mid sa payload)) := by
  unfold call
  simp only

theorem call_interchainTransfer (C : Crypto) (cx : ICtx) (tid chain addr md gas : Bytes) :
    call C cx "interchainTransfer" [tid, chain, addr, md, gas] =
      (do let _ ← getI
          if tid.length != 32 then fail else
          unit (interchainTransfer C cx tid chain addr (decodeMetadata md) (topBig gas))) := by
  unfold call
  simp only

theorem call_registerTokenMetadata (C : Crypto) (cx : ICtx) (tok : Bytes) :
    call C cx "registerTokenMetadata" [tok] =
      (do let _ ← getI
          if !onlyEgld cx then fail else
          unit (do
            require (isValidEsdt tok)
            addPend cx esdtSystemSc "getTokenProperties" 0 [] [tok] (.itsMetadata cx.self tok cx.egld cx.caller))) := by
  unfold call
  simp only

theorem call_deployRemoteCanonical (C : Crypto) (cx : ICtx) (tok chain : Bytes) :
    call C cx "deployRemoteCanonicalInterchainToken" [tok, chain] =
      (do let st ← getI
          if !onlyEgld cx then fail else do
          require (GasService.tokOfBytes tok == none || isValidEsdt tok)
          let deploySalt := canonicalDeploySalt C st tok
          retUnlessAsync (deployRemoteInterchainTokenRaw C cx deploySalt chain [] cx.caller)) := by
  unfold call
  simp only

theorem call_deployRemoteInterchain (C : Crypto) (cx : ICtx) (saltArg chain : Bytes) :
    call C cx "deployRemoteInterchainToken" [saltArg, chain] =
      (do let _ ← getI
          if !onlyEgld cx then fail else
          match topFixed 32 saltArg with
          | some salt => retUnlessAsync (deployRemoteWithMinter C cx salt zeroAddr chain none)
          | none => fail) := by
  unfold call
  -- reduces the match at the literal name; `rfl` alone would leave that to the defeq check, at more than twice the cost
  simp only
  rfl

theorem call_deployRemoteWithMinter (C : Crypto) (cx : ICtx) (saltArg minterArg chain : Bytes) (rest : List Bytes) :
    call C cx "deployRemoteInterchainTokenWithMinter" (saltArg :: minterArg :: chain :: rest) =
      (do let _ ← getI
          if !onlyEgld cx then fail else
          match topFixed 32 saltArg, topFixed 32 minterArg, optionalTail rest with
          | some salt, some minter, some dm => retUnlessAsync (deployRemoteWithMinter C cx salt minter chain dm)
          | _, _, _ => fail) := by
  unfold call
  simp only
  rfl

end Axelar.ItsW
