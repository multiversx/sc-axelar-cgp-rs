/-
  The endpoint dispatcher of the token service, opened once: for every arm its frame, for any
  frame relation (`frame_call`), and the guard a successful call has passed (`call_guard`).
-/
import Axelar.Proofs.ItsPause
namespace Axelar.ItsW
open Axelar Codec Its World

section
variable {R : World → World → Prop} [FrameRel R] [Writes R] (C : Crypto) (cx : ICtx)

/-- **The dispatcher, arm by arm.**  Whatever endpoint is called, by whomever, with whatever
    arguments and payment:
    (1) the world moves within `R`, for any frame relation `R` that admits the writes of ordinary
        flows (`Writes`), an approval written under the caller's key (`Approves`) and what the two
        remaining groups of arms write — the four owner operations (pause flag, trusted table:
        `howner`, which may assume that the caller is the owner) and the three operatorship
        operations (role tables: `hroles`);
    (2) the call has passed the guard of its endpoint (`Guard`).
    The goals come in the order of the arms of `ItsW.call`, and the `iterate` counts below follow
    that order: an endpoint added to the dispatcher means one more arm here, at the same place. -/
theorem call_sound [Approves C R cx.caller] (func : String) (args : List Bytes)
    (howner : cx.caller = cx.owner → func ∈ ownerOps → ∀ w s', OwnerStep w.its s' → R w { w with its := s' })
    (hroles : func ∈ roleOps → ∀ w s', RolesStep w.its s' → R w { w with its := s' }) :
    Frame R (call C cx func args) ∧ Frame (Guarded cx func) (call C cx func args) := by
  unfold call
  refine frame_getI_bind₂ fun s => ?_
  -- the one write of an owner operation, to the storage just read, behind the owner guard
  have owner : ∀ {s'}, func ∈ ownerOps → (cx.caller == cx.owner) = true → OwnerStep s s' → FrameAt s R (setI s') :=
    fun hf ho hs => .setI fun e => howner (beq_iff_eq.mp ho) hf _ _ (e ▸ hs)
  have role : ∀ {f}, func ∈ roleOps → FrameAt s R (roleOp cx f) := by
    refine fun hf => ⟨fun _ h => ?_⟩
    obtain ⟨s', hs', e⟩ := roleOp_eq_some h
    exact e ▸ hroles hf _ _ hs'
  have failed : ∀ {f : String} {α : Type}, FrameAt s (Guarded cx f) (fail : M α) := ⟨fun _ h => nomatch h⟩
  -- the payable endpoints: execute, interchainTransfer, callContractWithInterchainToken
  split
  iterate 3 exact ⟨Frame.at (hm := by frame) s, guard_paused (by fp) (by simp [ownerOps])⟩
  · -- registerTokenMetadata
    exact ⟨Frame.at (hm := by frame) s, guard_none (by simp [pausableEndpoints, ownerOps])⟩
  -- deployInterchainToken, the three remote deployments, linkToken
  iterate 5 exact ⟨Frame.at (hm := by frame) s, guard_paused (by fp) (by simp [ownerOps])⟩
  -- every other endpoint refuses a payment (`split` on this guard would rewrite all the arms behind it)
  by_cases hp : (!notPayable cx) = true
  · rw [if_pos hp]
    exact ⟨Frame.at s, failed⟩
  rw [if_neg hp]
  split
  -- registerCanonicalInterchainToken, registerCustomToken
  iterate 2 exact ⟨Frame.at (hm := by frame) s, guard_paused (by fp) (by simp [ownerOps])⟩
  -- approveDeployRemoteInterchainToken, revokeDeployRemoteInterchainToken
  iterate 2 exact ⟨Frame.at (hm := by frame) s, guard_none (by simp [pausableEndpoints, ownerOps])⟩
  · -- setFlowLimits
    split
    · exact ⟨Frame.at (hm := by frame) s, guard_operator (by simp [pausableEndpoints, ownerOps])⟩
    · exact ⟨Frame.at s, failed⟩
  -- setTrustedAddress, removeTrustedAddress
  iterate 2 exact ⟨.bind (.require fun ho => .require fun _ =>
      (owner (by simp [ownerOps]) ho (by constructor <;> exact rfl)).bind fun _ => inferInstance) fun _ => inferInstance,
    guard_owner (by simp [pausableEndpoints])⟩
  -- pause, unpause
  iterate 2 exact ⟨.bind (.require fun ho => owner (by simp [ownerOps]) ho (by constructor <;> exact rfl)) fun _ => inferInstance,
    guard_owner (by simp [pausableEndpoints])⟩
  · -- upgradeContract (its owner check is no part of `Guard`)
    exact ⟨Frame.at (hm := by frame) s, guard_none (by simp [pausableEndpoints, ownerOps])⟩
  -- transferOperatorship, proposeOperatorship
  iterate 2
    split
    · exact ⟨.require fun _ => role (by simp [roleOps]), guard_none (by simp [pausableEndpoints, ownerOps])⟩
    · exact ⟨Frame.at s, failed⟩
  · -- acceptOperatorship
    split
    · exact ⟨role (by simp [roleOps]), guard_none (by simp [pausableEndpoints, ownerOps])⟩
    · exact ⟨Frame.at s, failed⟩
  -- the twenty views, then the unknown endpoint
  iterate 20 exact ⟨Frame.at (hm := by frame) s, guard_none (by simp [pausableEndpoints, ownerOps])⟩
  exact ⟨Frame.at s, failed⟩

theorem frame_call [Approves C R cx.caller] (func : String) (args : List Bytes)
    (howner : cx.caller = cx.owner → func ∈ ownerOps → ∀ w s', OwnerStep w.its s' → R w { w with its := s' })
    (hroles : func ∈ roleOps → ∀ w s', RolesStep w.its s' → R w { w with its := s' }) :
    Frame R (call C cx func args) :=
  (call_sound C cx func args howner hroles).1

end

/-- **Every successful call passed the guard of its endpoint**: the pause check for the ten
    pausable endpoints, the owner check for the four owner operations, the operator check for
    `setFlowLimits` — for every caller, argument list and payment. -/
theorem call_guard (C : Crypto) (cx : ICtx) (func : String) (args : List Bytes) :
    Frame (Guarded cx func) (call C cx func args) :=
  -- the guard does not depend on the frame relation: take the one that holds of everything
  let T : World → World → Prop := fun _ _ => True
  haveI : FrameRel T := ⟨fun _ _ => trivial, fun _ => trivial⟩
  haveI : Writes T := ⟨fun _ => trivial⟩
  haveI : Approves C T cx.caller := ⟨trivial⟩
  (call_sound (R := T) C cx func args (fun _ _ _ _ _ => trivial) fun _ _ _ _ => trivial).2

/-- **While paused, every pausable endpoint fails for every caller, argument list and payment** -/
theorem call_paused (C : Crypto) (cx : ICtx) (func : String) (args : List Bytes) (t : Tx)
    (hf : func ∈ pausableEndpoints) (hp : t.w.its.paused = true) : call C cx func args t = none := by
  cases hr : call C cx func args t with
  | none => rfl
  | some x => cases hp.symm.trans (((call_guard C cx func args).h hr).paused hf)

end Axelar.ItsW
