/-
  The ledger equations of the token service's flows: a call to the gateway moves nothing, a gas
  payment — and with it `call_contract`, `route_message` and the flows that end in them — moves
  exactly the gas value to the gas service, `giveToken` / `takeToken` move exactly the amount, by
  manager kind.  First, a synchronous call to a token manager, opened.
-/
import Axelar.Proofs.Ledger
import Axelar.Proofs.ItsChain
import Axelar.Proofs.TokenManagerProofs
import Axelar.Proofs.GasServiceProofs

namespace Axelar.ItsW
open Axelar Codec Its World

theorem subcall_tm {C : Crypto} {cx : ICtx} {dst : Bytes} {f : String} {e : Nat}
    {es : List (Bytes × Nat × Nat)} {args : List Bytes} {t t' : Tx} {rs : List Bytes}
    (h : subcall C cx dst f e es args t = some (rs, t'))
    (hk : t.w.kind dst = some .tokenManager) :
    ∃ w1 out w2, World.pay t.w cx.self dst e es = some w1 ∧
      TokenManager.call (t.w.tms dst) ⟨cx.self, dst, t.w.now, e, es⟩ f args = .ok out ∧
      applyEffects { w1 with tms := upd w1.tms dst out.st } dst out.effects = some w2 ∧
      t'.w.accts = w2.accts ∧ rs = out.results ∧ t'.w.kind = t.w.kind ∧
      t'.w.tms = upd t.w.tms dst out.st ∧ t'.w.now = t.w.now := by
  obtain ⟨w1, out, w3, evs, pd, hp, hcall, hfin, rfl⟩ := subcall_tokenManager h hk
  obtain ⟨w2, he, hw, hrs, -⟩ := tmFinish_eq_some hfin
  have hb := pay_bal hp
  have hb2 := applyEffects_bal he
  rw [hw]
  exact ⟨w1, out, w2, hp, hcall, he, rfl, hrs, hb2.kind.trans hb.kind, hb2.tms.trans (by rw [hb.tms]), hb2.now.trans hb.now⟩

theorem subcall_tm_call {C : Crypto} {cx : ICtx} {tm : Bytes} {f : String} {args : List Bytes} {t t' : Tx}
    {rs : List Bytes} (h : subcall C cx tm f 0 [] args t = some (rs, t'))
    (hk : t.w.kind tm = some .tokenManager) :
    ∃ out, TokenManager.call (t.w.tms tm) ⟨cx.self, tm, t.w.now, 0, []⟩ f args = .ok out ∧
      t'.w.tms = upd t.w.tms tm out.st ∧ t'.w.kind = t.w.kind ∧ t'.w.its = t.w.its ∧ t'.w.now = t.w.now ∧
      rs = out.results ∧
      ∃ w2, applyEffects { t.w with tms := upd t.w.tms tm out.st } tm out.effects = some w2 ∧ t'.w.accts = w2.accts := by
  obtain ⟨w1, out, w2, hp, hcall, heff, hacc, hrs, hkind, htms, hnow⟩ := subcall_tm h hk
  cases pay_zero_eq hp
  exact ⟨out, hcall, htms, hkind, (subcall_ext h).its, hnow, hrs, w2, heff, hacc⟩

/-- **A view of a token manager, called by the service, changes nothing**: a call without payment
    whose transition keeps the manager's state, has no effects and issues no token leaves the world
    and the registered calls as they are; the transaction only gains the manager's events.  (Every
    view is of this kind: the last alternative of `TokenManager.call_cases`.) -/
theorem subcall_tm_view {C : Crypto} {cx : ICtx} {tm : Bytes} {f : String} {args rs : List Bytes} {t t' : Tx}
    (h : subcall C cx tm f 0 [] args t = some (rs, t')) (hk : t.w.kind tm = some .tokenManager) :
    ∃ out, TokenManager.call (t.w.tms tm) ⟨cx.self, tm, t.w.now, 0, []⟩ f args = .ok out ∧ rs = out.results ∧
      (out.st = t.w.tms tm → out.effects = [] → out.issue = none →
        t' = { t with evs := t.evs ++ stamp tm out.events }) := by
  obtain ⟨w1, out, w2, evs, pd, hp, hcall, hfin, rfl⟩ := subcall_tokenManager h hk
  cases pay_zero_eq hp
  obtain ⟨w3, he, -, rfl, rfl, hv⟩ := tmFinish_eq_some hfin
  refine ⟨out, hcall, rfl, fun hst heff hiss => ?_⟩
  obtain ⟨rfl, rfl⟩ := hv hiss
  rw [hst, heff, upd_self] at he
  cases he
  rw [List.append_nil]

/-- a role operation `r` that the manager `tm` runs for the service (a sub-call without payment)
    replaces that manager's state by the result of `r`; no balance and no kind changes -/
theorem subcall_role {C : Crypto} {cx : ICtx} {tm : Bytes} {f : String} {a : Bytes} {t t' : Tx} {rs : List Bytes}
    {r : Except TokenManager.Err (TokenManager.State × List Ev)} (h : subcall C cx tm f 0 [] [a] t = some (rs, t'))
    (hk : t.w.kind tm = some .tokenManager)
    (hr : ∀ out, TokenManager.call (t.w.tms tm) ⟨cx.self, tm, t.w.now, 0, []⟩ f [a] = .ok out →
      TokenManager.roleOut r = .ok out) :
    (∃ evs, r = .ok (t'.w.tms tm, evs)) ∧ t'.w.kind tm = some .tokenManager ∧ t'.w.accts = t.w.accts := by
  obtain ⟨out, hc, htms, hkind, _, _, _, w2, he, ha⟩ := subcall_tm_call h hk
  obtain ⟨evs, hro, hfx⟩ := TokenManager.roleOut_eq_ok (hr out hc)
  rw [hfx] at he
  cases he
  exact ⟨⟨evs, by rwa [htms, upd_same]⟩, hkind ▸ hk, ha⟩

theorem subcall_tokenIdentifier {C : Crypto} {cx : ICtx} {tm : Bytes} {t t' : Tx} {rs : List Bytes}
    (h : subcall C cx tm "tokenIdentifier" 0 [] [] t = some (rs, t')) (hk : t.w.kind tm = some .tokenManager) :
    t' = t ∧ rs = [(t.w.tms tm).tokenIdentifier] := by
  obtain ⟨out, hcall, rfl, hv⟩ := subcall_tm_view h hk
  rw [TokenManager.call_tokenIdentifier rfl] at hcall
  cases hcall
  exact ⟨(hv rfl rfl rfl).trans (by simp [stamp]), rfl⟩

def GwOnly (w w' : World) : Prop := w' = { w with gw := w'.gw }

theorem GwOnly.tms {w w' : World} (h : GwOnly w w') : w'.tms = w.tms := by rw [h]
theorem GwOnly.kind {w w' : World} (h : GwOnly w w') : w'.kind = w.kind := by rw [h]
theorem GwOnly.its {w w' : World} (h : GwOnly w w') : w'.its = w.its := by rw [h]
theorem GwOnly.accts {w w' : World} (h : GwOnly w w') : w'.accts = w.accts := by rw [h]
theorem GwOnly.now {w w' : World} (h : GwOnly w w') : w'.now = w.now := by rw [h]
theorem GwOnly.mintRole {w w' : World} (h : GwOnly w w') : w'.mintRole = w.mintRole := by rw [h]
theorem GwOnly.burnRole {w w' : World} (h : GwOnly w w') : w'.burnRole = w.burnRole := by rw [h]
theorem GwOnly.gs {w w' : World} (h : GwOnly w w') : w'.gs = w.gs := by rw [h]
theorem GwOnly.pending {w w' : World} (h : GwOnly w w') : w'.pending = w.pending := by rw [h]
theorem GwOnly.led {w w' : World} (h : GwOnly w w') : Led w w' nil nil := Led.of_accts h.accts

theorem subcall_gateway_only {C : Crypto} {cx : ICtx} {gwAddr : Bytes} {f : String} {args rs : List Bytes} {t t' : Tx}
    (h : subcall C cx gwAddr f 0 [] args t = some (rs, t')) (hk : t.w.kind gwAddr = some .gateway) :
    GwOnly t.w t'.w := by
  obtain ⟨gw', evs, -, rfl⟩ := subcall_gateway h hk
  rfl

theorem gatewayValidate_led (C : Crypto) (cx : ICtx) (a b c d : Bytes) (t t1 : Tx) (r : Bool)
    (hk : t.w.kind t.w.its.gateway = some .gateway)
    (h : gatewayValidate C cx a b c d t = some (r, t1)) : Led t.w t1.w nil nil :=
  Led.of_accts (by rw [(gatewayValidate_eq_some h hk).2])

theorem gatewayIsApproved_led (C : Crypto) (cx : ICtx) (a b c d : Bytes) (t t1 : Tx) (r : Bool)
    (hk : t.w.kind t.w.its.gateway = some .gateway)
    (h : gatewayIsApproved C cx a b c d t = some (r, t1)) : Led t.w t1.w nil nil :=
  Led.of_accts (by rw [(gatewayIsApproved_eq_some h hk).2])

theorem payAmt_payOf (tok : Its.Tok) (amount : Nat) (k : Asset) :
    payAmt (payOf tok amount).1 (payOf tok amount).2 k = if k = tok then amount else 0 := by
  unfold payOf payAmt
  cases tok with
  | none => exact Nat.add_zero _
  | some t => simp [esdtKey]

/-- paying `amount` of one asset is one direct transfer: it moves exactly that -/
theorem _root_.Axelar.World.Moves.of_pay {src dst : Bytes} {tok : Its.Tok} {amount : Nat} {w w' : World}
    (h : World.pay w src dst (payOf tok amount).1 (payOf tok amount).2 = some w') :
    Moves w w' src dst tok amount := by
  cases tok with
  | none => exact .of_send (pay_nil .. ▸ h)
  | some tk =>
    rw [payOf, pay_cons] at h
    obtain ⟨w1, h1, h2⟩ := Option.bind_eq_some_iff.mp h
    cases pay_zero_eq h2
    exact .of_send h1

section
variable {C : Crypto} {cx : ICtx} {gs : Bytes} {f : String} {e : Nat} {es : List (Bytes × Nat × Nat)}
  {args rs : List Bytes} {t t' : Tx}

theorem subcall_gs_kind (h : subcall C cx gs f e es args t = some (rs, t')) (hk : t.w.kind gs = some .gasService) :
    t'.w.kind = t.w.kind := by
  obtain ⟨w1, out, w2, hp, -, hs, -, rfl⟩ := subcall_gasService h hk
  exact (applySends_bal hs).kind.trans (pay_bal hp).kind

/-- what a sub-call pays the gas service stays there: only `collectFees` and `refund` send anything on -/
theorem subcall_gs_moves {tok : Its.Tok} {g : Nat}
    (h : subcall C cx gs f (payOf tok g).1 (payOf tok g).2 args t = some (rs, t'))
    (hk : t.w.kind gs = some .gasService) (hf : f ≠ "collectFees" ∧ f ≠ "refund") :
    Moves t.w t'.w cx.self gs tok g := by
  obtain ⟨w1, out, w2, hp, hcall, hs, -, rfl⟩ := subcall_gasService h hk
  rw [GasService.call_sends_nil hcall hf.1 hf.2] at hs
  cases hs
  exact (Moves.of_pay hp).congr rfl

end

/-- the gas-service endpoint that takes the gas for a contract call in `tok` -/
def gasEndpoint : Its.Tok → String
  | none => "payNativeGasForContractCall"
  | some _ => "payGasForContractCall"

/-- **`call_contract`, opened**: a non-empty destination address; the gas payment to the gas
    service, when there is gas; then the gateway's `callContract` -/
theorem callContract_eq_some {C : Crypto} {cx : ICtx} {dc da p : Bytes} {tok : Its.Tok} {g : Nat} {t t' : Tx}
    (h : ItsW.callContract C cx dc da p tok g t = some ((), t')) :
    da ≠ [] ∧ ∃ t1 rs,
      ((g = 0 ∧ t1 = t) ∨ (0 < g ∧ ∃ rs1, subcall C cx t.w.its.gasService (gasEndpoint tok) (payOf tok g).1 (payOf tok g).2
          [cx.self, dc, da, p, cx.caller] t = some (rs1, t1))) ∧
      subcall C cx t.w.its.gateway "callContract" 0 [] [dc, da, p] t1 = some (rs, t') := by
  obtain ⟨hda, h⟩ := require_bind.mp h
  rw [getI_bind] at h
  refine ⟨by simpa using hda, ?_⟩
  by_cases hg : g > 0
  · rw [if_pos hg] at h
    -- the two gas tokens differ in the endpoint's name and the shape of the payment only
    cases tok
    all_goals
      obtain ⟨rs1, t1, h1, h⟩ := bind_eq_some.mp h
      obtain ⟨rs, _, h2, h⟩ := bind_eq_some.mp h
      cases h
      exact ⟨t1, rs, .inr ⟨hg, rs1, h1⟩, h2⟩
  · rw [if_neg hg] at h
    obtain ⟨rs, _, h2, h⟩ := bind_eq_some.mp h
    cases h
    exact ⟨t, rs, .inl ⟨Nat.eq_zero_of_not_pos hg, rfl⟩, h2⟩

/-- **`call_contract` forwards exactly the gas value**: `gasValue` of the gas token goes from
    the service to the gas service (nothing when it is zero), the gateway call moves nothing -/
theorem callContract_moves {C : Crypto} {cx : ICtx} {dc da p : Bytes} {tok : Its.Tok} {g : Nat} {t t' : Tx}
    (h : ItsW.callContract C cx dc da p tok g t = some ((), t'))
    (hkgs : t.w.kind t.w.its.gasService = some .gasService) (hkgw : t.w.kind t.w.its.gateway = some .gateway) :
    Moves t.w t'.w cx.self t.w.its.gasService tok g := by
  obtain ⟨-, t1, rs, hgas, hgw⟩ := callContract_eq_some h
  rcases hgas with ⟨rfl, rfl⟩ | ⟨-, rs1, h1⟩
  · exact (Moves.zero ..).congr (subcall_gateway_only hgw hkgw).accts
  · have hf : gasEndpoint tok ≠ "collectFees" ∧ gasEndpoint tok ≠ "refund" := by cases tok <;> simp [gasEndpoint]
    exact (subcall_gs_moves h1 hkgs hf).congr (subcall_gateway_only hgw (subcall_gs_kind h1 hkgs ▸ hkgw)).accts

theorem routeMessage_eq_some {C : Crypto} {cx : ICtx} {chain payload : Bytes} {tok : Its.Tok} {g : Nat} {t t' : Tx}
    (h : routeMessage C cx chain payload tok g t = some ((), t')) :
    ∃ dc da p, getCallParams t.w.its chain payload = some (dc, da, p) ∧
      ItsW.callContract C cx dc da p tok g t = some ((), t') := by
  rw [routeMessage, getI_bind] at h
  generalize getCallParams t.w.its chain payload = o at h ⊢
  obtain _ | ⟨dc, da, p⟩ := o
  · cases h
  · exact ⟨dc, da, p, rfl, h⟩

theorem routeMessage_moves {C : Crypto} {cx : ICtx} {chain payload : Bytes} {tok : Its.Tok} {g : Nat} {t t' : Tx}
    (h : routeMessage C cx chain payload tok g t = some ((), t'))
    (hkgs : t.w.kind t.w.its.gasService = some .gasService) (hkgw : t.w.kind t.w.its.gateway = some .gateway) :
    Moves t.w t'.w cx.self t.w.its.gasService tok g := by
  obtain ⟨dc, da, p, -, hc⟩ := routeMessage_eq_some h
  exact callContract_moves hc hkgs hkgw

/-- **A successful transmission, opened**: a destination address, a non-zero amount, the ABI
    encoding of the transfer record routed with the gas, then the service's transfer event -/
theorem transmitInterchainTransfer_eq_some {C : Crypto} {cx : ICtx} {tid src chain addr : Bytes} {tg : TransferAndGas} {data : Bytes}
    {t t' : Tx} (h : transmitInterchainTransfer C cx tid src chain addr tg data t = some ((), t')) :
    addr ≠ [] ∧ 0 < tg.transferAmount ∧ ∃ payload t1,
      Abi.Transfer.encode ⟨0, tid, src, addr, tg.transferAmount, data⟩ = .ok payload ∧
      routeMessage C cx chain payload tg.gasToken tg.gasAmount t = some ((), t1) ∧
      t' = { t1 with evs := t1.evs ++ [⟨cx.self, "interchain_transfer_event",
        [tid, src, if data.isEmpty then zeroHash else C.H data],
        [nestBuf chain ++ nestBuf addr ++ nestBig tg.transferAmount]⟩] } := by
  obtain ⟨ha, h⟩ := require_bind.mp h
  obtain ⟨hp, h⟩ := require_bind.mp h
  refine ⟨by simpa using ha, by simpa using hp, ?_⟩
  obtain ⟨payload, he, h⟩ := encode_match h
  obtain ⟨_, t1, hr, h⟩ := bind_eq_some.mp h
  cases h
  exact ⟨payload, t1, he, hr, rfl⟩

theorem deployRemoteBase_moves {C : Crypto} {cx : ICtx} {tid name sym minter chain : Bytes} {dec gas : Nat} {t t' : Tx}
    (h : deployRemoteBase C cx tid name sym dec minter chain gas t = some ((), t'))
    (hkgs : t.w.kind t.w.its.gasService = some .gasService) (hkgw : t.w.kind t.w.its.gateway = some .gateway) :
    Moves t.w t'.w cx.self t.w.its.gasService none gas := by
  simp only [deployRemoteBase, require_bind] at h
  obtain ⟨-, -, h⟩ := h
  obtain ⟨_, _, htm, h⟩ := bind_eq_some.mp h
  obtain ⟨-, -, rfl⟩ := deployedTokenManager_eq_some.mp htm
  obtain ⟨payload, -, h⟩ := encode_match h
  obtain ⟨_, _, hr, h⟩ := bind_eq_some.mp h
  cases h
  -- an `emit` follows `hr`: the world it ends in is `t'.w` only up to reduction, so the goal must not fix the lemma's `t'`
  exact (routeMessage_moves hr hkgs hkgw :)

/-- the remote branch of `deploy_interchain_token_raw` (a destination chain is named): exactly the gas value
    goes from the service to the gas service -/
theorem deployInterchainTokenRaw_remote_moves {C : Crypto} {cx : ICtx} {salt chain name sym dm : Bytes} {dec gas : Nat}
    {t t' : Tx} {tid : Bytes} (h : deployInterchainTokenRaw C cx salt chain name sym dec dm gas t = some (tid, t'))
    (hkgs : t.w.kind t.w.its.gasService = some .gasService) (hkgw : t.w.kind t.w.its.gateway = some .gateway)
    (hchain : chain ≠ []) :
    Moves t.w t'.w cx.self t.w.its.gasService none gas := by
  simp only [deployInterchainTokenRaw, List.isEmpty_eq_false_iff.mpr hchain, Bool.false_eq_true, if_false, bind_eq_some,
    requireNotPaused_eq_some, require_eq_some, run_emit, run_getI, run_pure, Option.some.injEq, Prod.mk.injEq] at h
  obtain ⟨_, _, ⟨-, rfl⟩, _, _, ⟨-, rfl⟩, _, _, ⟨-, rfl⟩, _, _, ⟨-, rfl⟩, _, _, h, -, rfl⟩ := h
  -- likewise: `h` starts after an `emit`
  exact (deployRemoteBase_moves h hkgs hkgw :)

/-- what the manager's kind makes of a `giveToken`: unlock (the manager pays) or mint (nobody pays) -/
def giveOut (st : TokenManager.State) (tm : Bytes) (amount : Nat) : Amt :=
  if TokenManager.isMintBurnKind st.implType then nil
  else pt tm (TokenManager.tokOfBytes st.tokenIdentifier) amount

/-- **`giveToken` is exact**: the destination receives exactly `amount` of the manager's token;
    a lock/unlock manager's holdings shrink by exactly that amount, a mint/burn manager mints it
    (and holds nothing more or less than before); no other balance of any account changes. -/
theorem tmGiveToken_led {C : Crypto} {cx : ICtx} {tid dest : Bytes} {amount : Nat} {t t1 : Tx}
    {r : Bytes × Nat} {tm : Bytes} {st : TokenManager.State} (h : tmGiveToken C cx tid dest amount t = some (r, t1))
    (htm : t.w.its.tmAddress tid = tm) (hst : t.w.tms tm = st) (hk : t.w.kind tm = some .tokenManager) :
    cx.self = st.service ∧ r = (st.tokenIdentifier, amount) ∧
    Led t.w t1.w (giveOut st tm amount) (pt dest (TokenManager.tokOfBytes st.tokenIdentifier) amount) := by
  subst htm hst
  obtain ⟨_, _, htm, h⟩ := bind_eq_some.mp h
  obtain ⟨rfl, -, rfl⟩ := deployedTokenManager_eq_some.mp htm
  obtain ⟨rs, tt, hs, h⟩ := bind_eq_some.mp h
  obtain ⟨out, hcall, -, -, -, -, rfl, w2, heff, hacc⟩ := subcall_tm_call hs hk
  rw [TokenManager.call_giveToken rfl] at hcall
  obtain ⟨hcaller, -, -, hres, hshape⟩ := TokenManager.giveToken_eq_ok (topFixed_match hcall)
  rw [topBig_encNat] at hshape
  simp only [hres, run_pure, Option.some.injEq, Prod.mk.injEq, topBig_encNat] at h
  obtain ⟨rfl, rfl⟩ := h
  -- committing the manager's state moves nothing: the ledger equation is that of the effects
  refine ⟨hcaller, rfl, Led.congr (w := { t.w with tms := upd t.w.tms (t.w.its.tmAddress tid) out.st }) ?_ rfl hacc⟩
  rcases hshape with ⟨hkind, tk, htk, heffs⟩ | ⟨hkind, heffs⟩ <;> rw [heffs] at heff
  · rw [giveOut, if_pos hkind, htk]
    exact (led_effects_mint_send heff).2
  · rw [giveOut, if_neg (by simp [hkind])]
    exact led_effects_send heff

/-- what the manager's kind makes of a `takeToken`: lock (the manager keeps it) or burn (nobody does) -/
def takeIn (st : TokenManager.State) (tm : Bytes) (amount : Nat) : Amt :=
  if TokenManager.isMintBurnKind st.implType then nil
  else pt tm (TokenManager.tokOfBytes st.tokenIdentifier) amount

theorem takeIn_of_ne {st : TokenManager.State} {tm x : Bytes} (h : x ≠ tm) (n : Nat) (k : Asset) :
    takeIn st tm n x k = 0 := by
  unfold takeIn
  split
  · rfl
  · exact pt_of_ne h ..

/-- the payment `payOf tok amount` is read back by the manager as exactly `(tok, amount)` -/
theorem requireCorrectToken_payOf {st : TokenManager.State} {c s : Bytes} {now : Nat} {tok tok' : Its.Tok}
    {amount amt' : Nat}
    (h : TokenManager.requireCorrectToken st ⟨c, s, now, (payOf tok amount).1, (payOf tok amount).2⟩ = .ok (tok', amt')) :
    tok' = tok ∧ amt' = amount ∧ tok = TokenManager.tokOfBytes st.tokenIdentifier := by
  obtain ⟨rfl, he⟩ := TokenManager.requireCorrectToken_eq_ok h
  cases tok <;> simp only [payOf, TokenManager.egldOrSingleFungibleEsdt, if_true, Except.ok.injEq, Prod.mk.injEq] at he <;>
    exact ⟨he.1.symm, he.2.symm, he.1⟩

/-- **`takeToken` is exact**: exactly `amount` of the manager's token leaves the service; a
    lock/unlock manager's holdings grow by exactly that amount, a mint/burn manager burns it (and
    holds what it held before); no other balance of any account changes. -/
theorem tmTakeToken_led {C : Crypto} {cx : ICtx} {tid : Bytes} {tok : Its.Tok} {amount : Nat} {t t1 : Tx}
    {tm : Bytes} {st : TokenManager.State} (h : tmTakeToken C cx tid tok amount t = some ((), t1))
    (htm : t.w.its.tmAddress tid = tm) (hst : t.w.tms tm = st) (hk : t.w.kind tm = some .tokenManager) :
    cx.self = st.service ∧ tok = TokenManager.tokOfBytes st.tokenIdentifier ∧
    Led t.w t1.w (pt cx.self tok amount) (takeIn st tm amount) ∧ t1.w.kind = t.w.kind := by
  subst htm hst
  simp only [tmTakeToken, bind_eq_some, deployedTokenManager_eq_some, run_pure, Option.some.injEq, Prod.mk.injEq] at h
  obtain ⟨_, _, ⟨rfl, -, rfl⟩, rs, tt, hs, -, rfl⟩ := h
  obtain ⟨w1, out, w2, hp, hcall, heff, hacc, -, hkind', -⟩ := subcall_tm hs hk
  rw [TokenManager.call_takeToken] at hcall
  obtain ⟨hcaller, -, tok', amt', hreq, -, -, hshape⟩ := TokenManager.takeToken_eq_ok hcall
  obtain ⟨rfl, rfl, htok⟩ := requireCorrectToken_payOf hreq
  refine ⟨hcaller, htok, ?_, hkind'⟩
  -- the payment reaches the manager, which burns it or keeps it
  have hl : Led t.w { w1 with tms := upd w1.tms (t.w.its.tmAddress tid) out.st } _ _ :=
    (Moves.of_pay hp).led.congr rfl rfl
  rcases hshape with ⟨hkind, tk, rfl, heffs⟩ | ⟨hkind, heffs⟩ <;> rw [heffs] at heff
  · rw [takeIn, if_pos hkind]
    exact ((hl.trans (led_effects_burn heff).2).congr rfl hacc).conv fun _ _ => Nat.add_assoc _ _ _
  · rw [takeIn, if_neg (by simp [hkind]), ← htok]
    cases heff
    exact hl.congr rfl hacc

end Axelar.ItsW
