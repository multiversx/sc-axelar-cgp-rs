/-
  All-histories accounting of operator proposals: over every sequence of endpoint calls, governance commands and
  callbacks of dispatches in flight (the `GOp` of GovLedger, with ghost counters beside the contract state), per
  proposal   (approved now) + (operator dispatches in flight) + (operator dispatches whose call succeeded)
  ≤ (approve-operator commands accepted).   A dispatch moves a unit from the first summand to the second, a failure
  callback moves it back, a success callback moves it to the third; only an accepted approve command adds one.
-/
import Axelar.Proofs.GovLedger
namespace Axelar.Governance
open Axelar Codec

structure Cnt where
  st : State
  inflight : List Dispatch := []
  /-- ghost: accepted approve-operator commands per proposal hash -/
  approvedCmds : Bytes → Nat := fun _ => 0
  /-- ghost: operator dispatches whose call succeeded, per proposal hash -/
  opSucceeded : Bytes → Nat := fun _ => 0

/-- the proposal hash an approve-operator command names -/
def approveHash (C : Crypto) (payload : Bytes) : Option Bytes :=
  match top decExecutePayload payload with
  | some (.approveOperator, t, cd, v, _) => some (proposalHash C t cd v)
  | _ => none

def stepCnt (C : Crypto) (h : Cnt) : GOp → Cnt
  | .call ctx func args =>
    match call C h.st ctx func args with
    | .error _ => h
    | .ok out => { h with st := out.st, inflight := out.dispatch.toList ++ h.inflight }
  | .command gw ctx chain id src payload =>
    match execute C h.st gw ctx chain id src payload with
    | .error _ => h
    | .ok (st', _, _, _) =>
      { h with st := st',
               approvedCmds := match approveHash C payload with
                 | some x => upd h.approvedCmds x (h.approvedCmds x + 1)
                 | none => h.approvedCmds }
  | .cb d ok rs =>
    if d ∈ h.inflight then
      { h with st := (callback h.st d ok rs).st,
               inflight := h.inflight.erase d,
               opSucceeded := if ok = true ∧ d.operatorProposal = true
                 then upd h.opSucceeded d.hash (h.opSucceeded d.hash + 1) else h.opSucceeded }
    else h

def runCnt (C : Crypto) (h : Cnt) (ops : List GOp) : Cnt := ops.foldl (stepCnt C) h

/-- 1 if `d` is an operator dispatch of the proposal `x` -/
def opWeight (d : Dispatch) (x : Bytes) : Nat := if d.operatorProposal = true ∧ d.hash = x then 1 else 0

/-- number of operator dispatches of `x` in flight -/
def opFlying (l : List Dispatch) (x : Bytes) : Nat := (l.map (opWeight · x)).sum

/-- 1 if the proposal `x` is approved -/
def opLive (st : State) (x : Bytes) : Nat := if st.approvals x = true then 1 else 0

/-- the accounting invariant, per proposal hash -/
def CntInv (h : Cnt) : Prop := ∀ x, opLive h.st x + opFlying h.inflight x + h.opSucceeded x ≤ h.approvedCmds x

theorem opFlying_cons (d : Dispatch) (l : List Dispatch) (x : Bytes) :
    opFlying (d :: l) x = opFlying l x + opWeight d x :=
  Nat.add_comm _ _

theorem opFlying_erase {d : Dispatch} {l : List Dispatch} (hm : d ∈ l) (x : Bytes) :
    opFlying (l.erase d) x + opWeight d x = opFlying l x := by
  rw [← opFlying_cons]
  exact ((List.perm_cons_erase hm).map _).sum_nat.symm

theorem opWeight_eq (d : Dispatch) (x : Bytes) :
    opWeight d x = if d.operatorProposal = true then (if x = d.hash then 1 else 0) else 0 := by
  unfold opWeight
  cases d.operatorProposal <;> simp [eq_comm]

section
variable {st st' : State} {k : Bytes}

theorem opLive_congr (h : st'.approvals = st.approvals) (x : Bytes) : opLive st' x = opLive st x := by
  unfold opLive
  rw [h]

theorem opLive_upd_le {b : Bool} (h : st'.approvals = upd st.approvals k b) (x : Bytes) :
    opLive st' x ≤ opLive st x + if x = k then 1 else 0 :=
  ind_upd_le (· = true) h x

theorem opLive_clear_le (h : st'.approvals = upd st.approvals k false) (x : Bytes) : opLive st' x ≤ opLive st x :=
  ind_upd_clear_le (· = true) h nofun x

theorem opLive_clear (h : st'.approvals = upd st.approvals k false) (hk : st.approvals k = true) (x : Bytes) :
    opLive st' x + (if x = k then 1 else 0) = opLive st x :=
  ind_upd_clear (· = true) h nofun hk x

end

theorem init_cntInv {st : State} (h0 : ∀ x, st.approvals x = false) : CntInv { st := st } := by
  intro x
  simp [opLive, opFlying, h0]

theorem step_cntInv (C : Crypto) (h : Cnt) (op : GOp) (hi : CntInv h) : CntInv (stepCnt C h op) := by
  intro x
  have hx := hi x
  cases op with
  | call ctx func args =>
    rw [stepCnt]
    cases hc : call C h.st ctx func args with
    | error e => exact hx
    | ok out =>
      rcases call_approvals C h.st ctx func args out hc with ⟨d, hd, hop, hap, hst⟩ | ⟨hno, hst⟩
      · have := opLive_clear hst hap x
        simp only [hd, Option.toList, List.cons_append, List.nil_append, opFlying_cons, opWeight_eq, hop, if_true]
        omega
      · simp only [opLive_congr hst]
        cases hd : out.dispatch with
        | none => exact hx
        | some d =>
          simp only [Option.toList, List.cons_append, List.nil_append, opFlying_cons, opWeight_eq, hno d hd,
            Bool.false_eq_true, if_false]
          omega
  | command gw ctx chain id src payload =>
    rw [stepCnt]
    rcases hc : execute C h.st gw ctx chain id src payload with e | ⟨st', gw', e1, e2⟩
    · exact hx
    · obtain ⟨cmd, t, cd, v, eta, evs, hdec, hp⟩ := execute_cases C h.st gw ctx chain id src payload st' gw' e1 e2 hc
      have hap := processCommand_approvals C h.st ctx.now cmd t cd v eta st' evs hp
      cases cmd with
      | approveOperator =>
        have := opLive_upd_le hap x
        simp only [approveHash, hdec, upd_add]
        omega
      | cancelOperator =>
        have := opLive_clear_le hap x
        simp only [approveHash, hdec]
        omega
      | _ =>
        simp only [approveHash, hdec, opLive_congr hap]
        exact hx
  | cb d ok rs =>
    by_cases hm : d ∈ h.inflight
    · rw [stepCnt, if_pos hm]
      have hf := opFlying_erase hm x
      have hca := callback_approvals h.st d ok rs
      rw [opWeight_eq] at hf
      cases hop : d.operatorProposal with
      | false =>
        simp only [hop, reduceCtorEq, and_false, if_false] at hca hf ⊢
        rw [opLive_congr hca]
        rwa [← hf] at hx
      | true =>
        cases ok with
        | false =>
          simp only [hop, and_self, if_true, reduceCtorEq, false_and, if_false] at hca hf ⊢
          have := opLive_upd_le hca x
          omega
        | true =>
          simp only [hop, and_self, if_true, reduceCtorEq, false_and, if_false] at hca hf ⊢
          rw [opLive_congr hca, upd_add]
          omega
    · rw [stepCnt, if_neg hm]
      exact hx

theorem run_cntInv (C : Crypto) (ops : List GOp) {h : Cnt} (hi : CntInv h) : CntInv (runCnt C h ops) :=
  List.foldlRecOn ops (stepCnt C) hi fun h hi op _ => step_cntInv C h op hi

end Axelar.Governance
