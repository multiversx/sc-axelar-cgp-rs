/-
  `noAlias` and `keysNodup` of a storage table from one pairwise check on the UTF-8 bytes of the keys.
  The kernel is slow on `String.toList` (decoding runs by well-founded recursion) and fast on the bytes of a
  literal; a prefix among characters is a prefix among bytes, so the bytes suffice.
-/
import Axelar.Proofs.SurfaceDefs
namespace Axelar.Surface
open Axelar Generated

def bytes (s : String) : List UInt8 := s.toByteArray.data.toList

theorem bytes_prefix {s t : String} (h : s.toList <+: t.toList) : bytes s <+: bytes t := by
  obtain ⟨r, hr⟩ := h
  rw [bytes, bytes, ← t.utf8Encode_toList, ← hr, List.utf8Encode_append, s.utf8Encode_toList,
    ByteArray.data_append, Array.toList_append]
  exact List.prefix_append _ _

/-- no storage key of mapper `a` is the base key of `b` -/
abbrev Clear (a b : Mapper) : Prop :=
  bytes a.key ≠ bytes b.key ∧ ¬(0 < a.arity ∧ bytes a.key <+: bytes b.key)

theorem Clear.sound {a b : Mapper} (h : Clear a b) :
    ((a.key == b.key && a.arity == b.arity) ||
      (a.key != b.key && !(a.key.toList.isPrefixOf b.key.toList && a.arity > 0))) = true := by
  have hk : a.key ≠ b.key := fun e => h.1 (congrArg bytes e)
  have hp : a.key.toList <+: b.key.toList → ¬0 < a.arity := fun hp ha => h.2 ⟨ha, bytes_prefix hp⟩
  simpa [hk, Decidable.or_iff_not_imp_left] using hp

theorem no_alias_of_pairwise {ms : List Mapper} (h : ms.Pairwise fun a b => Clear a b ∧ Clear b a) :
    noAlias ms = true ∧ keysNodup ms = true := by
  refine ⟨?_, decide_eq_true (List.pairwise_map.mpr (h.imp fun h e => h.1.1 (congrArg bytes e)))⟩
  simp only [noAlias, List.all_eq_true]
  exact List.Pairwise.forall_of_forall_of_flip (fun _ _ => by simp) (h.imp fun h => h.1.sound)
    (h.imp fun h => h.2.sound)

end Axelar.Surface
