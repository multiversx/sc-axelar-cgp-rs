/-
  Running the transaction monad `M = StateT Tx Option` of the token service: one equation per
  primitive, the inversion of a successful `>>=` and of the guards, and what a synchronous sub-call
  is when it is opened — for any callee (`subcall_ext`) and by the kind of the callee
  (`subcall_gateway`, `subcall_gasService`, `subcall_tokenManager`); the service's two calls to the
  gateway as the gateway's own functions (`gatewayValidate_eq_some`, `gatewayIsApproved_eq_some`).
-/
import Axelar.Model.ItsWorld
import Axelar.Proofs.WorldFrame
namespace Axelar.ItsW
open Axelar Codec Its World

@[simp] theorem run_bind {α β : Type} (m : M α) (f : α → M β) (t : Tx) :
    (m >>= f) t = match m t with | none => none | some (a, t') => f a t' := by
  simp only [bind, StateT.bind]
  cases m t <;> rfl

@[simp] theorem run_pure {α : Type} (a : α) (t : Tx) : (pure a : M α) t = some (a, t) := rfl
@[simp] theorem run_fail {α : Type} (t : Tx) : (fail : M α) t = none := rfl
@[simp] theorem run_require (b : Bool) (t : Tx) : require b t = if b then some ((), t) else none := by
  unfold require; split <;> rfl
@[simp] theorem run_getI (t : Tx) : getI t = some (t.w.its, t) := rfl
@[simp] theorem run_getW (t : Tx) : getW t = some (t.w, t) := rfl
@[simp] theorem run_setI (s : Its.State) (t : Tx) :
    setI s t = some ((), { t with w := { t.w with its := s } }) := rfl
@[simp] theorem run_setW (w : World) (t : Tx) : setW w t = some ((), { t with w := w }) := rfl
@[simp] theorem run_emit (cx : ICtx) (n : String) (a b : List Bytes) (t : Tx) :
    emit cx n a b t = some ((), { t with evs := t.evs ++ [⟨cx.self, n, a, b⟩] }) := rfl
@[simp] theorem run_ite {α : Type} (c : Prop) [Decidable c] (a b : M α) (t : Tx) :
    (if c then a else b) t = if c then a t else b t := by
  split <;> rfl
theorem run_get (t : Tx) : (get : M Tx) t = some (t, t) := rfl

theorem addPend_run (cx : ICtx) (dst : Bytes) (func : String) (egld : Nat) (esdt : List (String × Nat × Nat))
    (args : List Bytes) (kind : PendKind) (t : Tx) :
    addPend cx dst func egld esdt args kind t =
      some ((), { t with
        w := { t.w with pending := t.w.pending ++ [⟨⟨t.w.nextPending, dst, func, egld, esdt, args⟩, cx.self, kind, none⟩],
                        nextPending := t.w.nextPending + 1 },
        pend := t.pend ++ [⟨t.w.nextPending, dst, func, egld, esdt, args⟩] }) := rfl

/-- a successful `m >>= f` is a successful `m` followed by a successful `f`; with `simp only … at h`
    this takes a whole successful `do` block apart -/
theorem bind_eq_some {α β : Type} {m : M α} {f : α → M β} {t t' : Tx} {b : β} :
    (m >>= f) t = some (b, t') ↔ ∃ a t1, m t = some (a, t1) ∧ f a t1 = some (b, t') := by
  rw [run_bind]
  cases m t with
  | none => simp
  | some x =>
    obtain ⟨a, t1⟩ := x
    exact ⟨fun h => ⟨a, t1, rfl, h⟩, fun ⟨_, _, e, h⟩ => by cases e; exact h⟩

theorem require_eq_some {b : Bool} {t t' : Tx} {u : Unit} : require b t = some (u, t') ↔ b = true ∧ t = t' := by
  cases b <;> simp

theorem run_requireNotPaused (t : Tx) :
    requireNotPaused t = if t.w.its.paused then none else some ((), t) := by
  simp only [requireNotPaused, run_bind, run_getI, run_require]
  cases t.w.its.paused <;> rfl

theorem requireNotPaused_paused {t : Tx} (h : t.w.its.paused = true) : requireNotPaused t = none := by
  rw [run_requireNotPaused, h]; rfl

theorem requireNotPaused_eq_some {t t' : Tx} {u : Unit} :
    requireNotPaused t = some (u, t') ↔ t.w.its.paused = false ∧ t = t' := by
  rw [run_requireNotPaused]
  cases t.w.its.paused <;> simp

theorem run_deployedTokenManager (tid : Bytes) (t : Tx) :
    deployedTokenManager tid t =
      if (t.w.its.tmAddress tid).isEmpty then none else some (t.w.its.tmAddress tid, t) := by
  simp only [deployedTokenManager, run_bind, run_getI, run_require]
  cases (t.w.its.tmAddress tid).isEmpty <;> simp

theorem deployedTokenManager_eq_some {tid a : Bytes} {t t' : Tx} :
    deployedTokenManager tid t = some (a, t') ↔ a = t.w.its.tmAddress tid ∧ a ≠ [] ∧ t = t' := by
  rw [run_deployedTokenManager]
  split
  · rename_i he
    exact ⟨nofun, fun ⟨e, hne, _⟩ => absurd (List.isEmpty_iff.mp (e ▸ he)) hne⟩
  · rename_i he
    simp only [Option.some.injEq, Prod.mk.injEq]
    exact ⟨fun ⟨e, e'⟩ => ⟨e.symm, e ▸ mt List.isEmpty_iff.mpr he, e'⟩, fun ⟨e, _, e'⟩ => ⟨e.symm, e'⟩⟩

theorem getI_bind {β : Type} (f : Its.State → M β) (t : Tx) : (getI >>= f) t = f t.w.its t := by
  simp only [run_bind, run_getI]

theorem require_bind {β : Type} {b : Bool} {f : Unit → M β} {t : Tx} {r : β × Tx} :
    (require b >>= f) t = some r ↔ b = true ∧ f () t = some r := by
  cases b <;> simp

/-- what cannot run successfully fails -/
theorem eq_none_of_not_some {α : Type} {m : M α} {t : Tx} (h : ∀ a t', m t ≠ some (a, t')) : m t = none :=
  Option.eq_none_iff_forall_ne_some.mpr fun x => h x.1 x.2

theorem ite_fail_eq_some {α : Type} {c : Prop} [Decidable c] {m : M α} {t : Tx} {r : α × Tx} :
    (if c then fail else m) t = some r ↔ ¬ c ∧ m t = some r := by
  split <;> simp [*, fail]

/-- past an ABI encoding that has succeeded -/
theorem encode_match {β : Type} {x : Except Abi.Err Bytes} {f : Bytes → M β} {t : Tx} {r : β × Tx}
    (h : (match x with | .error _ => fail | .ok payload => f payload) t = some r) :
    ∃ payload, x = .ok payload ∧ f payload t = some r := by
  cases x with
  | error e => cases h
  | ok payload => exact ⟨payload, rfl, h⟩

theorem unit_eq_some {m : M Unit} {t t' : Tx} {rs : List Bytes} :
    ItsW.unit m t = some (rs, t') ↔ m t = some ((), t') ∧ rs = [] := by
  simp only [ItsW.unit, bind_eq_some, run_pure, Option.some.injEq, Prod.mk.injEq]
  constructor
  · rintro ⟨_, _, h, rfl, rfl⟩
    exact ⟨h, rfl⟩
  · rintro ⟨h, rfl⟩
    exact ⟨_, _, h, rfl, rfl⟩

/-- `retUnlessAsync m` runs `m`; only the returned list depends on whether a call was registered -/
theorem retUnlessAsync_eq_some {m : M Bytes} {t t' : Tx} {rs : List Bytes} :
    retUnlessAsync m t = some (rs, t') ↔
      ∃ b, m t = some (b, t') ∧ rs = if t'.pend.length > t.pend.length then [] else [b] := by
  simp only [retUnlessAsync, bind_eq_some, run_get, run_ite, run_pure, Option.some.injEq, Prod.mk.injEq]
  constructor
  · rintro ⟨_, _, ⟨rfl, rfl⟩, b, t1, hm, _, _, ⟨rfl, rfl⟩, h⟩
    split at h <;> obtain ⟨rfl, rfl⟩ := h <;> exact ⟨b, hm, by simp [*]⟩
  · rintro ⟨b, hm, rfl⟩
    refine ⟨_, _, ⟨rfl, rfl⟩, b, _, hm, _, _, ⟨rfl, rfl⟩, ?_⟩
    split <;> simp [*]

theorem subcall_eq_some {C : Crypto} {cx : ICtx} {dst : Bytes} {f : String} {e : Nat}
    {es : List (Bytes × Nat × Nat)} {args : List Bytes} {t t' : Tx} {rs : List Bytes} :
    subcall C cx dst f e es args t = some (rs, t') ↔
    ∃ w1 w2 evs pd, pay t.w cx.self dst e es = some w1 ∧
      callOther C w1 cx.self dst f e es args = some (w2, rs, evs, pd) ∧
      t' = { w := w2, evs := t.evs ++ evs, pend := t.pend ++ pd } := by
  unfold subcall
  constructor
  · intro h
    split at h
    · cases h
    · rename_i w1 hp
      split at h <;> cases h
      rename_i hc
      exact ⟨w1, _, _, _, hp, hc, rfl⟩
  · rintro ⟨w1, w2, evs, pd, hp, hc, rfl⟩
    simp only [hp, hc]

theorem subcall_ext {C : Crypto} {cx : ICtx} {dst : Bytes} {f : String} {e : Nat}
    {es : List (Bytes × Nat × Nat)} {args : List Bytes} {t t' : Tx} {rs : List Bytes}
    (h : subcall C cx dst f e es args t = some (rs, t')) : Ext t.w t'.w := by
  obtain ⟨w1, w2, evs, pd, hp, hc, rfl⟩ := subcall_eq_some.mp h
  exact (pay_bal hp).ext.trans (callOther_ext hc)

section
variable {C : Crypto} {cx : ICtx} {dst : Bytes} {f : String} {e : Nat} {es : List (Bytes × Nat × Nat)}
  {args rs : List Bytes} {t t' : Tx}

theorem subcall_gateway (h : subcall C cx dst f e es args t = some (rs, t')) (hk : t.w.kind dst = some .gateway) :
    ∃ gw' gevs, Gateway.call C t.w.gw ⟨cx.self, t.w.owner dst, t.w.now⟩ f args = .ok (gw', rs, gevs) ∧
      t' = { w := { t.w with gw := gw' }, evs := t.evs ++ stamp dst gevs, pend := t.pend } := by
  obtain ⟨w1, w2, evs, pd, hp, hc, rfl⟩ := subcall_eq_some.mp h
  obtain ⟨rfl, rfl, gw', gevs, hg, rfl, rfl, rfl⟩ := callOther_gateway hc ((congrFun (pay_bal hp).kind dst).trans hk)
  cases pay_zero_eq hp
  exact ⟨gw', gevs, hg, by rw [List.append_nil]⟩

/-- the gas service sees its balance AFTER the payment has arrived (`balanceOf w1 dst`) -/
theorem subcall_gasService (h : subcall C cx dst f e es args t = some (rs, t')) (hk : t.w.kind dst = some .gasService) :
    ∃ w1 out w2, pay t.w cx.self dst e es = some w1 ∧
      GasService.call C t.w.gs ⟨cx.self, t.w.owner dst, e, es, balanceOf w1 dst⟩ f args = .ok out ∧
      applySends { w1 with gs := out.st } dst out.sends = some w2 ∧ rs = out.results ∧
      t' = { w := w2, evs := t.evs ++ stamp dst out.events, pend := t.pend } := by
  obtain ⟨w1, w2, evs, pd, hp, hc, rfl⟩ := subcall_eq_some.mp h
  obtain ⟨a, rfl⟩ := (pay_bal hp).exists_accts
  obtain ⟨out, hcall, hs, rfl, rfl, rfl⟩ := callOther_gasService hc hk
  exact ⟨_, out, w2, hp, hcall, hs, rfl, by rw [List.append_nil]⟩

theorem subcall_tokenManager (h : subcall C cx dst f e es args t = some (rs, t'))
    (hk : t.w.kind dst = some .tokenManager) :
    ∃ w1 out w2 evs pd, pay t.w cx.self dst e es = some w1 ∧
      TokenManager.call (t.w.tms dst) ⟨cx.self, dst, t.w.now, e, es⟩ f args = .ok out ∧
      tmFinish w1 dst out = some (w2, rs, evs, pd) ∧ t' = { w := w2, evs := t.evs ++ evs, pend := t.pend ++ pd } := by
  obtain ⟨w1, w2, evs, pd, hp, hc, rfl⟩ := subcall_eq_some.mp h
  obtain ⟨a, rfl⟩ := (pay_bal hp).exists_accts
  obtain ⟨out, hcall, hfin⟩ := callOther_tokenManager hc hk
  exact ⟨_, out, w2, evs, pd, hp, hcall, hfin, rfl⟩

end

section
variable {C : Crypto} {cx : ICtx} {chain id src ph : Bytes} {t t1 : Tx}

/-- **The service's validation of a message is the gateway's `validateMessage` with the service as
    caller**: the answer is the gateway's answer and the world differs in the gateway's state only. -/
theorem gatewayValidate_eq_some {b : Bool} (h : gatewayValidate C cx chain id src ph t = some (b, t1))
    (hk : t.w.kind t.w.its.gateway = some .gateway) :
    b = (Gateway.validateMessage C t.w.gw cx.self chain id src ph).2.1 ∧
    t1.w = { t.w with gw := (Gateway.validateMessage C t.w.gw cx.self chain id src ph).1 } := by
  simp only [gatewayValidate, bind_eq_some, run_getI, run_pure, Option.some.injEq, Prod.mk.injEq] at h
  obtain ⟨_, _, ⟨rfl, rfl⟩, rs, _, hs, rfl, rfl⟩ := h
  obtain ⟨gw', evs, hg, rfl⟩ := subcall_gateway hs hk
  obtain ⟨_, _, _, _, _, hargs, _, hv, rfl⟩ := Gateway.validate_call_inv hg
  cases hargs
  rw [hv]
  exact ⟨(Bool.and_true _).trans (encBool_beq_true _), rfl⟩

/-- **A validation that returned true found the approval addressed to the service and consumed
    it**: the gateway entry was `Approved(hash(chain, id, source, THIS contract, payload hash))`
    and is `Executed` afterwards. -/
theorem gatewayValidate_true (h : gatewayValidate C cx chain id src ph t = some (true, t1))
    (hk : t.w.kind t.w.its.gateway = some .gateway) :
    t.w.gw.messages (chain, id) = .approved (Gateway.messageHash C chain id src cx.self ph) ∧
    t1.w.gw.messages (chain, id) = .executed := by
  obtain ⟨hb, hw⟩ := gatewayValidate_eq_some h hk
  have hs := Gateway.validateMessage_spec C t.w.gw cx.self chain id src ph
  refine ⟨hs.1.mp hb.symm, ?_⟩
  rw [hw, hs.2.1 hb.symm]
  simp [upd]

/-- completeness of the gateway validation as the service sees it: when the entry is the approval
    for exactly these fields addressed to the service, a validation that runs returns `true`
    and leaves the entry executed -/
theorem gatewayValidate_of_approved {b : Bool} (h : gatewayValidate C cx chain id src ph t = some (b, t1))
    (hk : t.w.kind t.w.its.gateway = some .gateway)
    (ha : t.w.gw.messages (chain, id) = .approved (Gateway.messageHash C chain id src cx.self ph)) :
    b = true ∧ t1.w.gw.messages (chain, id) = .executed := by
  have hb := (gatewayValidate_eq_some h hk).1
  rw [(Gateway.validateMessage_spec C t.w.gw cx.self chain id src ph).1.mpr ha] at hb
  subst hb
  exact ⟨rfl, (gatewayValidate_true h hk).2⟩

theorem gatewayIsApproved_eq_some {b : Bool} (h : gatewayIsApproved C cx chain id src ph t = some (b, t1))
    (hk : t.w.kind t.w.its.gateway = some .gateway) :
    b = Gateway.isMessageApproved C t.w.gw chain id src cx.self ph ∧ t1.w = t.w := by
  simp only [gatewayIsApproved, bind_eq_some, run_getI, run_pure, Option.some.injEq, Prod.mk.injEq] at h
  obtain ⟨_, _, ⟨rfl, rfl⟩, rs, _, hs, rfl, rfl⟩ := h
  obtain ⟨gw', evs, hg, rfl⟩ := subcall_gateway hs hk
  obtain ⟨rfl, rfl⟩ := Gateway.isMessageApproved_call hg
  exact ⟨(Bool.and_true _).trans (encBool_beq_true _), rfl⟩

/-- **A check that returned true found the approval addressed to the service**, and left the
    world as it was (`isMessageApproved` is a view). -/
theorem gatewayIsApproved_true (h : gatewayIsApproved C cx chain id src ph t = some (true, t1))
    (hk : t.w.kind t.w.its.gateway = some .gateway) :
    t.w.gw.messages (chain, id) = .approved (Gateway.messageHash C chain id src cx.self ph) ∧ t1.w = t.w :=
  ⟨of_decide_eq_true (gatewayIsApproved_eq_some h hk).1.symm, (gatewayIsApproved_eq_some h hk).2⟩

end

end Axelar.ItsW
