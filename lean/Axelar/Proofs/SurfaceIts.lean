/-
  The token service's entry points and storage mappers as regenerated from the sources on every run
  (`Generated/Surface.lean`), against the surface the model implements (see SurfaceDefs.lean); and the gas
  reserved for its callback.  There is no link back from the dispatcher as for the other four contracts:
  `ItsW.call` is a program in the world monad, with no characterisation by cases to read it off.  What ties its
  endpoints' guards to the sources is the second regenerated table, `Generated.itsEndpoints` (Props/C20).
-/
import Axelar.Proofs.SurfaceLemmas
import Axelar.Generated.Constants
namespace Axelar.Surface
open Axelar Generated

def itsExpected : List (String × String × Bool × String × Nat) := [
  ("callback", "deploy_remote_token_callback", false, "", 0),
  ("callback", "execute_with_token_callback", false, "", 0),
  ("callback", "register_token_metadata_callback", false, "", 0),
  ("endpoint", "acceptOperatorship", false, "", 1),
  ("endpoint", "approveDeployRemoteInterchainToken", false, "", 4),
  ("endpoint", "callContractWithInterchainToken", false, "*", 5),
  ("endpoint", "deployInterchainToken", false, "*", 6),
  ("endpoint", "deployRemoteCanonicalInterchainToken", false, "EGLD", 2),
  ("endpoint", "deployRemoteInterchainToken", false, "EGLD", 2),
  ("endpoint", "deployRemoteInterchainTokenWithMinter", false, "EGLD", 4),
  ("endpoint", "execute", false, "EGLD", 4),
  ("endpoint", "interchainTransfer", false, "*", 5),
  ("endpoint", "linkToken", false, "EGLD", 5),
  ("endpoint", "proposeOperatorship", false, "", 1),
  ("endpoint", "registerCanonicalInterchainToken", false, "", 1),
  ("endpoint", "registerCustomToken", false, "", 4),
  ("endpoint", "registerTokenMetadata", false, "EGLD", 1),
  ("endpoint", "removeTrustedAddress", true, "", 1),
  ("endpoint", "revokeDeployRemoteInterchainToken", false, "", 3),
  ("endpoint", "setFlowLimits", false, "", 2),
  ("endpoint", "setTrustedAddress", true, "", 2),
  ("endpoint", "transferOperatorship", false, "", 1),
  ("init", "init", false, "", 7),
  ("upgrade", "upgrade", false, "", 0)]

theorem its_surface : itsSurface.map sig = itsExpected := by rfl

theorem its_storage_no_alias : noAlias itsStorage = true ∧ keysNodup itsStorage = true :=
  no_alias_of_pairwise (by decide +kernel)

/-- the storage mappers of the contract are exactly the fields the model's state has (a mapper the model does not know
    is state the theorems do not cover; the harness emulates its absence on contracts deployed by earlier code: `wipe`) -/
theorem its_storage_keys : itsStorage.map (·.key) = ["account_roles", "approved_destination_minters", "chain_name", "chain_name_hash", "gas_service", "gateway", "proposed_roles", "token_manager", "token_manager_address", "transfer_with_data_lock", "trusted_address"] := by rfl

/-- **Gas reserved for the transfer-with-data callback** (C08: the callback that takes the tokens back must not run
    out of gas; not exhibitable in the debug VM, tied statically) -/
theorem its_callback_gas_reserved :
    Generated.ITS_EXECUTE_WITH_TOKEN_CALLBACK_GAS ≥ 20000000 ∧ Generated.ITS_KEEP_EXTRA_GAS ≥ 15000000 := by decide

end Axelar.Surface
