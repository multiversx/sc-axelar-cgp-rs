/-
  The governance contract's entry points and storage mappers as regenerated from the sources on every run
  (`Generated/Surface.lean`), against the surface the model implements (see SurfaceDefs.lean); the link back
  from the model's dispatcher (a call that changes storage, moves funds or dispatches is an endpoint of that
  table; `execute`, which that dispatcher does not handle, is looked up apart); and the gas reserved for the callbacks.
-/
import Axelar.Proofs.SurfaceLemmas
import Axelar.Proofs.GovCall
namespace Axelar.Surface
open Axelar Generated

def governanceExpected : List (String × String × Bool × String × Nat) := [
  ("callback", "execute_operator_proposal_callback", false, "", 0),
  ("callback", "execute_proposal_callback", false, "", 0),
  ("endpoint", "execute", false, "", 4),
  ("endpoint", "executeOperatorProposal", false, "*", 3),
  ("endpoint", "executeProposal", false, "*", 3),
  ("endpoint", "transferOperatorship", false, "", 1),
  ("endpoint", "withdraw", false, "", 2),
  ("endpoint", "withdrawRefundToken", false, "", 1),
  ("init", "init", false, "", 5),
  ("upgrade", "upgrade", false, "", 0)]

theorem governance_surface : governanceSurface.map sig = governanceExpected := by rfl

theorem governance_storage_no_alias : noAlias governanceStorage = true ∧ keysNodup governanceStorage = true :=
  no_alias_of_pairwise (by decide +kernel)

/-- the storage mappers of the contract are exactly the fields the model's state has (a mapper the model does not know
    is state the theorems do not cover; the harness emulates its absence on contracts deployed by earlier code: `wipe`) -/
theorem governance_storage_keys : governanceStorage.map (·.key) = ["gateway", "governance_address", "governance_chain", "minimum_time_lock_delay", "operator", "operator_approvals", "refund_token", "time_lock_eta"] := by rfl

-- `+kernel`: for a single goal the kernel's evaluation alone is the cheaper; the goals of one case analysis
-- (as in the theorem below) share most of plain `decide`'s work, and there `+kernel` is the dearer
theorem governance_execute_in_surface :
    ∃ e ∈ Generated.governanceSurface, e.kind = "endpoint" ∧ e.name = "execute" ∧ e.payable = "" := by decide +kernel

/-- **Gas reserved for the callbacks** (C11, C12, C16: the failure callback restores the proposal and credits the
    refund — it must not run out of gas; the debug VM does not meter gas, so this is tied statically): the constants
    regenerated from the source are at least the reservations the deployed contract makes. -/
theorem governance_callback_gas_reserved :
    Generated.GOV_EXECUTE_PROPOSAL_CALLBACK_GAS ≥ 10000000 ∧
    Generated.GOV_EXECUTE_PROPOSAL_CALLBACK_GAS_PER_PAYMENT ≥ 2000000 ∧
    Generated.GOV_KEEP_EXTRA_GAS ≥ 15000000 := by decide

open Governance

/-- **The model changes the governance contract's storage, moves funds or dispatches a call only through an
    endpoint of the regenerated surface** (`execute`, the command endpoint, is modelled next to the gateway:
    `Governance.execute`; it is in the surface as well: `governance_execute_in_surface`). -/
theorem governance_effects_only_through_surface (C : Crypto) (st : State) (ctx : Ctx) (func : String)
    (args : List Bytes) (out : Out) (h : call C st ctx func args = .ok out)
    (hne : out.st ≠ st ∨ out.sends ≠ [] ∨ out.dispatch ≠ none) :
    ∃ e ∈ Generated.governanceSurface, e.kind = "endpoint" ∧ e.name = func := by
  cases call_ok h with
  | view ho =>
    subst ho
    exact hne.elim (absurd rfl) (·.elim (absurd rfl) (absurd rfl))
  | timeLock hf | operator hf | withdraw hf | transferOperatorship hf | withdrawRefundToken hf =>
    subst hf
    decide

end Axelar.Surface
