/-
  The decoder of `Model/Abi` succeeds exactly when the layout reader of `Spec/SolAbi` assigns the
  fields (`decodeParam_iff`, `rawDecodeGo_iff`); and, in the specification alone, that reader finds
  in a canonical encoding the values encoded (`enc_readsAll`).  Together they are the round trip.
-/
import Axelar.Proofs.AbiEncode
import Axelar.Proofs.Basics
namespace Axelar.Abi
open Axelar Axelar.Sol

theorem slice_length {bs : Bytes} {off len : Nat} (h : off + len ≤ bs.length) :
    (slice bs off len).length = len := by
  rw [slice, List.length_take, List.length_drop, Nat.min_eq_left (Nat.le_sub_of_add_le' h)]

theorem peek32_eq_ok {bs : Bytes} {off : Nat} {w : Bytes} :
    peek32 bs off = .ok w ↔ off + 32 ≤ bs.length ∧ w = slice bs off 32 := by
  rw [peek32, ite_else_error_eq_ok, Except.ok.injEq, eq_comm]
  rfl

theorem takeBytes_eq_ok {bs : Bytes} {off len : Nat} {v : Bytes} :
    takeBytes bs off len = .ok v ↔ off + len ≤ bs.length ∧ v = slice bs off len := by
  rw [takeBytes, ite_else_error_eq_ok, Except.ok.injEq, eq_comm]
  rfl

theorem wordAt_eq_some {bs : Bytes} {off n : Nat} :
    wordAt bs off = some n ↔ off + 32 ≤ bs.length ∧ beNat (slice bs off 32) = n := by
  rw [wordAt, Option.ite_none_right_eq_some, Option.some.injEq]

theorem takeUsize_eq_ok {w : Bytes} (h : w.length = 32) {n : Nat} :
    takeUsize w = .ok n ↔ beNat w = n ∧ n < 2 ^ 32 := by
  simp only [takeUsize, take_all_zero_iff, beNat_drop, h]
  split
  next hlt =>
    rw [Nat.mod_eq_of_lt hlt, Except.ok.injEq]
    exact ⟨fun e => ⟨e, e ▸ hlt⟩, And.left⟩
  next hge =>
    simp only [reduceCtorEq, false_iff]
    exact fun ⟨e, hn⟩ => hge (e ▸ hn)

theorem takeU8_eq_ok {w : Bytes} (h : w.length = 32) {v : UInt8} :
    takeU8 w = .ok v ↔ beNat w = v.toNat := by
  have hv := toNat_getD_last h
  simp only [takeU8, take_all_zero_iff, h]
  split
  next hlt => rw [Except.ok.injEq, ← UInt8.toNat_inj, hv, Nat.mod_eq_of_lt hlt]
  next hge =>
    simp only [reduceCtorEq, false_iff]
    exact fun e => hge (e ▸ v.toNat_lt)

theorem takeUsize_slice {bs : Bytes} {off n : Nat} (hb : off + 32 ≤ bs.length) :
    takeUsize (slice bs off 32) = .ok n ↔ wordAt bs off = some n ∧ n < 2 ^ 32 := by
  rw [takeUsize_eq_ok (slice_length hb), wordAt_eq_some, and_iff_right hb]

theorem decodeDyn_eq_ok {bs : Bytes} {pos : Nat} {v : Bytes} :
    decodeDyn bs pos = .ok v ↔
      ∃ off len, wordAt bs pos = some off ∧ off < 2 ^ 32 ∧ wordAt bs off = some len ∧
        len < 2 ^ 32 ∧ off + 32 + len ≤ bs.length ∧ v = slice bs (off + 32) len := by
  constructor
  · fun_cases decodeDyn bs pos
    case case5 w0 h0 off h1 w1 h2 len h3 =>
      intro h
      obtain ⟨hb0, rfl⟩ := peek32_eq_ok.mp h0
      obtain ⟨hb1, rfl⟩ := peek32_eq_ok.mp h2
      obtain ⟨w0, l0⟩ := (takeUsize_slice hb0).mp h1
      obtain ⟨w1, l1⟩ := (takeUsize_slice hb1).mp h3
      exact ⟨off, len, w0, l0, w1, l1, takeBytes_eq_ok.mp h⟩
    all_goals nofun
  · rintro ⟨off, len, w0, l0, w1, l1, hv⟩
    have hb0 := (wordAt_eq_some.mp w0).1
    have hb1 := (wordAt_eq_some.mp w1).1
    simp only [decodeDyn, peek32_eq_ok.mpr ⟨hb0, rfl⟩, (takeUsize_slice hb0).mpr ⟨w0, l0⟩,
      peek32_eq_ok.mpr ⟨hb1, rfl⟩, (takeUsize_slice hb1).mpr ⟨w1, l1⟩, takeBytes_eq_ok.mpr hv]

theorem decodeParam_iff (ty : Ty) (bs : Bytes) (i : Nat) (t : Tok) :
    decodeParam ty bs (32 * i) = .ok t ↔ Reads bs i ty t := by
  constructor
  · fun_cases decodeParam ty bs (32 * i)
    -- a result `.ok t` comes from one of the five successful branches, one for each type
    all_goals
      intro h
      cases h
    next w h0 =>
      obtain ⟨hb, rfl⟩ := peek32_eq_ok.mp h0
      exact .uint256 _ (wordAt_eq_some.mpr ⟨hb, rfl⟩)
    next w h0 =>
      obtain ⟨hb, rfl⟩ := peek32_eq_ok.mp h0
      exact .bytes32 hb
    next v h0 =>
      obtain ⟨off, len, a, b, c, d, e, rfl⟩ := decodeDyn_eq_ok.mp h0
      exact .bytes off len a b c d e
    next v h0 =>
      obtain ⟨off, len, a, b, c, d, e, rfl⟩ := decodeDyn_eq_ok.mp h0
      exact .string off len a b c d e
    next w h0 v h1 =>
      obtain ⟨hb, rfl⟩ := peek32_eq_ok.mp h0
      have hw := wordAt_eq_some.mpr ⟨hb, (takeU8_eq_ok (slice_length hb)).mp h1⟩
      exact UInt8.ofNat_toNat (x := v) ▸ Reads.uint8 v.toNat hw v.toNat_lt
  · intro h
    cases h with
    | uint256 n hw =>
      obtain ⟨hb, rfl⟩ := wordAt_eq_some.mp hw
      simp only [decodeParam, peek32_eq_ok.mpr ⟨hb, rfl⟩]
    | bytes32 hb => simp only [decodeParam, peek32_eq_ok.mpr ⟨hb, rfl⟩]
    | uint8 n hw hn =>
      obtain ⟨hb, rfl⟩ := wordAt_eq_some.mp hw
      simp only [decodeParam, peek32_eq_ok.mpr ⟨hb, rfl⟩, (takeU8_eq_ok (slice_length hb)).mpr
        (UInt8.toNat_ofNat_of_lt' hn).symm]
    | bytes off len a b c d e | string off len a b c d e =>
      simp only [decodeParam, decodeDyn_eq_ok.mpr ⟨off, len, a, b, c, d, e, rfl⟩]

theorem rawDecodeGo_iff (tys : List Ty) (bs : Bytes) (i : Nat) (ts : List Tok) :
    rawDecodeGo tys bs (32 * i) = .ok ts ↔ ReadsAll bs i tys ts := by
  constructor
  · -- the loop counts bytes, the specification slots
    generalize hoff : 32 * i = off
    fun_induction rawDecodeGo tys bs off generalizing i ts
    all_goals
      intro h
      cases h
    next => exact .nil i
    next ty tys bs off t h0 ts' h1 ih =>
      subst hoff
      exact .cons i ty tys t ts' ((decodeParam_iff ..).mp h0) (ih (i + 1) _ (Nat.mul_succ 32 i) h1)
  · intro h
    induction h with
    | nil i => rfl
    | cons i ty tys t ts hr _ ih =>
      simp only [rawDecodeGo, (decodeParam_iff ..).mpr hr, ← Nat.mul_succ, ih]

theorem getMessageType_eq_ok {bs : Bytes} {n : Nat} :
    getMessageType bs = .ok n ↔ wordAt bs 0 = some n ∧ n < 2 ^ 63 := by
  constructor
  · fun_cases getMessageType bs
    all_goals
      intro h
      cases h
    next hd hn =>
      cases (decodeParam_iff .uint256 bs 0 _).mp hd with
      | uint256 _ hm => exact ⟨hm, hn⟩
  · rintro ⟨hw, hn⟩
    rw [getMessageType, (decodeParam_iff .uint256 bs 0 _).mpr (.uint256 n hw)]
    exact if_pos hn

/-! ### Reading a canonical encoding (in the specification alone)

`l.drop a = m ++ r` says that `m` stands in `l` at offset `a`. -/

theorem length_of_drop {l m r : Bytes} {a : Nat} (h : l.drop a = m ++ r) :
    l.length - a = m.length + r.length := by
  rw [← List.length_drop, h, List.length_append]

theorem slice_of_drop {l m r : Bytes} {a k : Nat} (h : l.drop a = m ++ r) (hk : m.length = k) :
    slice l a k = m := by
  rw [slice, h, List.take_left' hk]

theorem drop_add_of_drop {l m r : Bytes} {a k : Nat} (h : l.drop a = m ++ r) (hk : m.length = k) :
    l.drop (a + k) = r := by
  rw [← List.drop_drop, h, List.drop_left' hk]

theorem wordAt_of_drop {l r : Bytes} {a n : Nat} (h : l.drop a = word n ++ r) (hn : n < 2 ^ 256) :
    wordAt l a = some n := by
  have := length_of_drop h
  rw [word_length] at this
  exact wordAt_eq_some.mpr ⟨by omega, by rw [slice_of_drop h (word_length n), beNat_word hn]⟩

/-- One dynamic field, read as `bytes` and as `string`: the two constructors have the same
    premises. -/
theorem dyn_of_layout {full : Bytes} (hfull : full.length < 2 ^ 32) {b : Bytes} {i off : Nat}
    {restA restB : Bytes} (hA : full.drop (32 * i) = word off ++ restA)
    (hB : full.drop off = Sol.tail (.bytes b) ++ restB) :
    Reads full i .bytes (.bytes b) ∧ Reads full i .string (.string b) := by
  simp only [Sol.tail, padRight, List.append_assoc] at hB
  have hlen := length_of_drop hB
  rw [word_length, List.length_append] at hlen
  have hb : off + 32 + b.length ≤ full.length := by omega
  have ho := Nat.lt_of_le_of_lt (Nat.le_of_add_right_le (Nat.le_of_add_right_le hb)) hfull
  have hl := Nat.lt_of_le_of_lt (Nat.le_of_add_left_le hb) hfull
  have h256 : 2 ^ 32 < 2 ^ 256 := by decide
  have hwA := wordAt_of_drop hA (Nat.lt_trans ho h256)
  have hwB := wordAt_of_drop hB (Nat.lt_trans hl h256)
  have hs := slice_of_drop (drop_add_of_drop hB (word_length _)) rfl
  exact ⟨hs ▸ .bytes off b.length hwA ho hwB hl hb, hs ▸ .string off b.length hwA ho hwB hl hb⟩

theorem reads_of_layout {full : Bytes} (hfull : full.length < 2 ^ 32) {t : Tok} {i off : Nat}
    {restA restB : Bytes} (hA : full.drop (32 * i) = Sol.head t off ++ restA)
    (hB : full.drop off = Sol.tail t ++ restB) (hf : Tok.fits t) : Reads full i t.ty t := by
  cases t with
  | uint256 n => exact .uint256 n (wordAt_of_drop hA hf)
  | bytes32 b =>
    have hlen := length_of_drop hA
    rw [head_length _ hf] at hlen
    exact (slice_of_drop hA hf : _ = b) ▸ .bytes32 (by omega)
  | uint8 v =>
    have hw := wordAt_of_drop hA (Nat.lt_trans v.toNat_lt (by decide))
    exact UInt8.ofNat_toNat (x := v) ▸ Reads.uint8 v.toNat hw v.toNat_lt
  | bytes b => exact (dyn_of_layout hfull hA hB).1
  | string b => exact (dyn_of_layout hfull hA hB).2

theorem readsAll_of_layout {full : Bytes} (hfull : full.length < 2 ^ 32)
    (ts : List Tok) (i off : Nat) {restA restB : Bytes}
    (hA : full.drop (32 * i) = heads ts off ++ restA)
    (hB : full.drop off = tails ts ++ restB)
    (hf : ∀ t ∈ ts, Tok.fits t) :
    ReadsAll full i (ts.map Tok.ty) ts := by
  induction ts generalizing i off with
  | nil => exact .nil i
  | cons t ts ih =>
    obtain ⟨hft, hfts⟩ := List.forall_mem_cons.mp hf
    rw [heads, List.append_assoc] at hA
    rw [tails_cons, List.append_assoc] at hB
    exact .cons i _ _ t ts (reads_of_layout hfull hA hB hft)
      (ih (i + 1) _ (drop_add_of_drop hA (head_length off hft)) (drop_add_of_drop hB rfl) hfts)

theorem enc_readsAll {ts : List Tok} (hf : ∀ t ∈ ts, Tok.fits t)
    (hlen : (enc ts).length < 2 ^ 32) :
    ReadsAll (enc ts) 0 (ts.map Tok.ty) ts :=
  readsAll_of_layout hlen ts 0 (32 * ts.length) (restB := []) rfl
    (by rw [enc, List.drop_left' (heads_length ts _ hf), List.append_nil]) hf

end Axelar.Abi
