/-
  The events of an outbound message whose gas is paid in EGLD: exactly one gateway contract-call event
  carrying the payload and its hash, preceded — for a non-zero gas value — by exactly one gas-paid event.
-/
import Axelar.Proofs.ItsLedger

namespace Axelar.ItsW
open Axelar Codec Its World

theorem subcall_gateway_callContract_events {C : Crypto} {cx : ICtx} {gwAddr c a p : Bytes} {t t' : Tx}
    {rs : List Bytes} (h : subcall C cx gwAddr "callContract" 0 [] [c, a, p] t = some (rs, t'))
    (hk : t.w.kind gwAddr = some .gateway) :
    t'.evs = t.evs ++ [⟨gwAddr, "contract_call_event", [cx.self, c, a, C.H p], [p]⟩] := by
  obtain ⟨gw', gevs, hg, rfl⟩ := subcall_gateway h hk
  rw [Gateway.call_callContract] at hg
  cases hg
  rfl

theorem subcall_payNativeGas_events {C : Crypto} {cx : ICtx} {gs : Bytes} {g : Nat} {c a p refund : Bytes}
    {t t' : Tx} {rs : List Bytes}
    (h : subcall C cx gs "payNativeGasForContractCall" g [] [cx.self, c, a, p, refund] t = some (rs, t'))
    (hk : t.w.kind gs = some .gasService) :
    t'.evs = t.evs ++ [⟨gs, "native_gas_paid_for_contract_call_event", [cx.self, c, a],
      [GasService.nativeGasPaidData (C.H p) g refund]⟩] := by
  obtain ⟨w1, out, w2, -, hcall, -, -, rfl⟩ := subcall_gasService h hk
  rw [GasService.call_payNativeGasForContractCall] at hcall
  obtain ⟨_, _, _, _, _, hargs, -, -, -, -, hev⟩ := GasService.payNative_eq_ok hcall
  cases hargs
  rw [hev]
  rfl

/-- **`call_contract` with native gas emits exactly**: (for a non-zero gas value) one gas-paid event
    for the same destination and payload hash with the caller of the service as refund address,
    then one gateway contract-call event whose payload hash is the hash of the payload. -/
theorem callContract_native_events {C : Crypto} {cx : ICtx} {dc da p : Bytes} {g : Nat} {t t' : Tx}
    (h : ItsW.callContract C cx dc da p none g t = some ((), t'))
    (hkgs : t.w.kind t.w.its.gasService = some .gasService) (hkgw : t.w.kind t.w.its.gateway = some .gateway) :
    t'.evs = t.evs ++
      (if g > 0 then [⟨t.w.its.gasService, "native_gas_paid_for_contract_call_event", [cx.self, dc, da],
          [GasService.nativeGasPaidData (C.H p) g cx.caller]⟩] else []) ++
      [⟨t.w.its.gateway, "contract_call_event", [cx.self, dc, da, C.H p], [p]⟩] := by
  obtain ⟨-, t1, rs, hgas, hgw⟩ := callContract_eq_some h
  rcases hgas with ⟨rfl, rfl⟩ | ⟨hg, rs1, h1⟩
  · rw [subcall_gateway_callContract_events hgw hkgw, if_neg (Nat.lt_irrefl 0), List.append_nil]
  · rw [subcall_gateway_callContract_events hgw (subcall_gs_kind h1 hkgs ▸ hkgw),
      subcall_payNativeGas_events (g := g) h1 hkgs, if_pos hg]

end Axelar.ItsW
