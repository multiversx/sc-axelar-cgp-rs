/-
  The gas service's entry points and storage mappers as regenerated from the sources on every run
  (`Generated/Surface.lean`), against the surface the model implements (see SurfaceDefs.lean); and the link
  back from the model's dispatcher: a call that changes storage, emits or moves funds is an endpoint of that table.
-/
import Axelar.Proofs.SurfaceLemmas
import Axelar.Proofs.GasServiceProofs
namespace Axelar.Surface
open Axelar Generated

def gasServiceExpected : List (String × String × Bool × String × Nat) := [
  ("endpoint", "addExpressGas", false, "*", 3),
  ("endpoint", "addGas", false, "*", 3),
  ("endpoint", "addNativeExpressGas", false, "EGLD", 3),
  ("endpoint", "addNativeGas", false, "EGLD", 3),
  ("endpoint", "collectFees", false, "", 3),
  ("endpoint", "payGasForContractCall", false, "*", 5),
  ("endpoint", "payGasForExpressCall", false, "*", 5),
  ("endpoint", "payNativeGasForContractCall", false, "EGLD", 5),
  ("endpoint", "payNativeGasForExpressCall", false, "EGLD", 5),
  ("endpoint", "refund", false, "", 5),
  ("endpoint", "setGasCollector", false, "", 1),
  ("init", "init", false, "", 1),
  ("upgrade", "upgrade", false, "", 0)]

theorem gasService_surface : gasServiceSurface.map sig = gasServiceExpected := by rfl

theorem gasService_storage_no_alias : noAlias gasServiceStorage = true ∧ keysNodup gasServiceStorage = true :=
  no_alias_of_pairwise (by decide +kernel)

/-- the storage mappers of the contract are exactly the fields the model's state has (a mapper the model does not know
    is state the theorems do not cover; the harness emulates its absence on contracts deployed by earlier code: `wipe`) -/
theorem gasService_storage_keys : gasServiceStorage.map (·.key) = ["gas_collector"] := by rfl

open GasService

/-- **The model changes the gas service's storage, emits events or moves funds only through an endpoint of the
    regenerated surface.** -/
theorem gasService_effects_only_through_surface (C : Crypto) (st : State) (ctx : Ctx) (func : String)
    (args : List Bytes) (out : Out) (h : call C st ctx func args = .ok out)
    (hne : out.st ≠ st ∨ out.sends ≠ [] ∨ out.events ≠ []) :
    ∃ e ∈ Generated.gasServiceSurface, e.kind = "endpoint" ∧ e.name = func := by
  cases call_ok h with
  | collectFees hf | refund hf | setGasCollector hf =>
    subst hf
    decide
  | payEsdt hf | payNative hf | addEsdt hf | addNative hf =>
    obtain rfl | rfl := hf
    all_goals decide
  | quiet hq he => exact hne.elim (absurd hq.1) (·.elim (absurd hq.2) (absurd he))

end Axelar.Surface
