/-
  What a successful run of each inbound flow of the token service is: `execute` and its
  transfer branches (`process_interchain_transfer_payload`, `execute_with_token` and its
  callback), each taken apart once into the runs of its stages.
-/
import Axelar.Proofs.ItsMonad
namespace Axelar.ItsW
open Axelar Codec Its World

/-- The checks every inbound message has passed when `execute` succeeds, and the branch its message type selects. -/
theorem execute_eq_some {C : Crypto} {cx : ICtx} {sc mid sa payload : Bytes} {t t' : Tx}
    (h : execute C cx sc mid sa payload t = some ((), t')) :
    cx.esdt.isEmpty = true ∧ t.w.its.paused = false ∧ isTrustedAddress t.w.its sc sa = true ∧
    ∃ mt oc inner, getExecuteParams t.w.its sc payload = some (mt, oc, inner) ∧
      ((mt = Generated.MESSAGE_TYPE_INTERCHAIN_TRANSFER ∧ cx.egld = 0 ∧
          processInterchainTransfer C cx oc sc mid sa (C.H payload) inner t = some ((), t')) ∨
       (mt = Generated.MESSAGE_TYPE_DEPLOY_INTERCHAIN_TOKEN ∧
          processDeployInterchainToken C cx sc mid sa (C.H payload) inner t = some ((), t')) ∨
       (mt = Generated.MESSAGE_TYPE_LINK_TOKEN ∧ cx.egld = 0 ∧
          ∃ t1, gatewayValidate C cx sc mid sa (C.H payload) t = some (true, t1) ∧
            processLinkToken C cx inner t1 = some ((), t'))) := by
  unfold execute at h
  obtain ⟨he, h⟩ := require_bind.mp h
  obtain ⟨_, _, hr, h⟩ := bind_eq_some.mp h
  obtain ⟨hp, rfl⟩ := requireNotPaused_eq_some.mp hr
  -- `rewrite`, not `rw`: after each rewrite `rw` tries `rfl` on the whole goal
  rewrite [getI_bind] at h
  obtain ⟨ht, h⟩ := require_bind.mp h
  refine ⟨he, hp, ht, ?_⟩
  rcases hg : getExecuteParams t.w.its sc payload with _ | ⟨mt, oc, inner⟩
  · simp only [hg] at h
    cases h
  refine ⟨mt, oc, inner, rfl, ?_⟩
  simp only [hg, beq_iff_eq] at h
  by_cases h0 : mt = Generated.MESSAGE_TYPE_INTERCHAIN_TRANSFER
  · rewrite [if_pos h0] at h
    obtain ⟨hz, h⟩ := require_bind.mp h
    exact .inl ⟨h0, beq_iff_eq.mp hz, h⟩
  rewrite [if_neg h0] at h
  by_cases h1 : mt = Generated.MESSAGE_TYPE_DEPLOY_INTERCHAIN_TOKEN
  · rewrite [if_pos h1] at h
    exact .inr (.inl ⟨h1, h⟩)
  rewrite [if_neg h1] at h
  by_cases h5 : mt = Generated.MESSAGE_TYPE_LINK_TOKEN
  · rewrite [if_pos h5] at h
    obtain ⟨hz, h⟩ := require_bind.mp h
    obtain ⟨ok, t1, hv, h⟩ := bind_eq_some.mp h
    obtain ⟨hok, h⟩ := require_bind.mp h
    exact .inr (.inr ⟨h5, beq_iff_eq.mp hz, t1, hok ▸ hv, h⟩)
  rewrite [if_neg h5] at h
  cases h

theorem execute_transfer {C : Crypto} {cx : ICtx} {sc mid sa payload oc inner : Bytes} {t t' : Tx}
    (h : execute C cx sc mid sa payload t = some ((), t'))
    (hg : getExecuteParams t.w.its sc payload = some (Generated.MESSAGE_TYPE_INTERCHAIN_TRANSFER, oc, inner)) :
    cx.egld = 0 ∧ processInterchainTransfer C cx oc sc mid sa (C.H payload) inner t = some ((), t') := by
  obtain ⟨_, _, _, _, _, _, hg', hb⟩ := execute_eq_some h
  cases hg.symm.trans hg'
  obtain ⟨_, hp⟩ | ⟨⟨⟩, _⟩ | ⟨⟨⟩, _⟩ := hb
  exact hp

theorem execute_deploy {C : Crypto} {cx : ICtx} {sc mid sa payload oc inner : Bytes} {t t' : Tx}
    (h : execute C cx sc mid sa payload t = some ((), t'))
    (hg : getExecuteParams t.w.its sc payload = some (Generated.MESSAGE_TYPE_DEPLOY_INTERCHAIN_TOKEN, oc, inner)) :
    processDeployInterchainToken C cx sc mid sa (C.H payload) inner t = some ((), t') := by
  obtain ⟨_, _, _, _, _, _, hg', hb⟩ := execute_eq_some h
  cases hg.symm.trans hg'
  obtain ⟨⟨⟩, _⟩ | ⟨_, hp⟩ | ⟨⟨⟩, _⟩ := hb
  exact hp

theorem processInterchainTransfer_eq_some {C : Crypto} {cx : ICtx} {oc sc mid sa ph payload : Bytes} {t t' : Tx}
    (h : processInterchainTransfer C cx oc sc mid sa ph payload t = some ((), t')) :
    ∃ p evs, Abi.Transfer.decode payload = .ok p ∧ p.destinationAddress.length = 32 ∧
      ((p.data = [] ∧ ∃ t1 r, gatewayValidate C cx sc mid sa ph { t with evs := evs } = some (true, t1) ∧
          tmGiveToken C cx p.tokenId p.destinationAddress p.amount t1 = some (r, t')) ∨
       (p.data ≠ [] ∧ executeWithToken C cx p.destinationAddress oc sc mid sa ph p.sourceAddress p.data p.tokenId
          p.amount { t with evs := evs } = some ((), t'))) := by
  unfold processInterchainTransfer at h
  rcases hd : Abi.Transfer.decode payload with e | p
  · simp only [hd] at h
    cases h
  simp only [hd] at h
  obtain ⟨hl, h⟩ := require_bind.mp h
  obtain ⟨_, _, he, h⟩ := bind_eq_some.mp h
  cases he
  by_cases he : p.data.isEmpty = true
  · rw [if_pos he] at h
    obtain ⟨ok, t1, hv, h⟩ := bind_eq_some.mp h
    obtain ⟨hok, h⟩ := require_bind.mp h
    obtain ⟨r, _, hg, hp⟩ := bind_eq_some.mp h
    cases hp
    exact ⟨p, _, rfl, of_decide_eq_true hl, .inl ⟨List.isEmpty_iff.mp he, t1, r, hok ▸ hv, hg⟩⟩
  · rw [if_neg he] at h
    exact ⟨p, _, rfl, of_decide_eq_true hl, .inr ⟨mt List.isEmpty_iff.mpr he, h⟩⟩

theorem processInterchainTransfer_noData {C : Crypto} {cx : ICtx} {oc sc mid sa ph payload : Bytes} {t t' : Tx}
    {p : Abi.Transfer} (h : processInterchainTransfer C cx oc sc mid sa ph payload t = some ((), t'))
    (hd : Abi.Transfer.decode payload = .ok p) (hdata : p.data = []) :
    ∃ evs t1 r, gatewayValidate C cx sc mid sa ph { t with evs := evs } = some (true, t1) ∧
      tmGiveToken C cx p.tokenId p.destinationAddress p.amount t1 = some (r, t') := by
  obtain ⟨p', evs, hd', _, hb⟩ := processInterchainTransfer_eq_some h
  cases hd.symm.trans hd'
  obtain ⟨_, hr⟩ | ⟨hne, _⟩ := hb
  · exact ⟨evs, hr⟩
  · exact absurd hdata hne

theorem executeWithToken_eq_some {C : Crypto} {cx : ICtx} {dest oc sc mid sa ph osa data tid : Bytes} {amount : Nat}
    {t t' : Tx} (h : executeWithToken C cx dest oc sc mid sa ph osa data tid amount t = some ((), t')) :
    ∃ t1 tokRaw amt t2, gatewayIsApproved C cx sc mid sa ph t = some (true, t1) ∧
      tmGiveToken C cx tid cx.self amount t1 = some ((tokRaw, amt), t2) ∧
      t2.w.its.lock (sc, mid) = false ∧
      addPend cx dest "executeWithInterchainToken" (payOf (GasService.tokOfBytes tokRaw) amt).1
        ((payOf (GasService.tokOfBytes tokRaw) amt).2.map fun p => (World.asciiString p.1, p.2.1, p.2.2))
        [oc, mid, osa, data, tid] (.itsExecute cx.self sc mid sa ph tid tokRaw amt)
        { t2 with w := { t2.w with its := { t2.w.its with lock := upd t2.w.its.lock (sc, mid) true } } }
        = some ((), t') := by
  unfold executeWithToken at h
  obtain ⟨ok, t1, h1, h⟩ := bind_eq_some.mp h
  obtain ⟨hok, h⟩ := require_bind.mp h
  obtain ⟨⟨tokRaw, amt⟩, t2, h2, h⟩ := bind_eq_some.mp h
  dsimp only at h
  rw [getI_bind] at h
  obtain ⟨hl, h⟩ := require_bind.mp h
  exact ⟨t1, tokRaw, amt, t2, hok ▸ h1, h2, by simpa using hl, h⟩

theorem executeWithTokenCallback_eq_some {C : Crypto} {cx : ICtx} {sc mid sa ph tid tokRaw : Bytes} {amount : Nat} {t t' : Tx}
    (h : executeWithTokenCallback C cx sc mid sa ph tid tokRaw amount true t = some ((), t')) :
    ∃ b t1, gatewayValidate C cx sc mid sa ph
        { t with w := { t.w with its := { t.w.its with lock := upd t.w.its.lock (sc, mid) false } } } = some (b, t1) ∧
      t'.w = t1.w := by
  unfold executeWithTokenCallback at h
  rw [getI_bind] at h
  obtain ⟨_, _, hs, h⟩ := bind_eq_some.mp h
  cases hs
  rw [run_ite, if_pos rfl] at h
  obtain ⟨b, t1, hv, h⟩ := bind_eq_some.mp h
  cases h
  exact ⟨b, t1, hv, rfl⟩

end Axelar.ItsW
