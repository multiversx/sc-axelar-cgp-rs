/-
  The encoder of `Model/Abi` computes the specification `Spec/SolAbi`: its padding loop is
  `padRight`, its two integer paddings are `word`, so `headAppend` / `tailAppend` append `Sol.head` /
  `Sol.tail` and the two passes append `heads` / `tails`; and the lengths of these pieces.
-/
import Axelar.Proofs.BytesLemmas
import Axelar.Spec.SolAbi
import Axelar.Model.AbiTypes
namespace Axelar.Abi
open Axelar Axelar.Sol

theorem padRight_length (b : Bytes) :
    (padRight b).length = (b.length + 31) / 32 * 32 := by
  simp only [padRight, List.length_append, zeros_length]
  omega

theorem padRight_nil : padRight [] = [] := rfl

theorem padRight_of_32 {b : Bytes} (h : b.length = 32) : padRight b = b := by
  simp [padRight, h, zeros]

theorem padRight_short {b : Bytes} (h0 : b ≠ []) (h : b.length < 32) :
    padRight b = b ++ zeros (32 - b.length) := by
  have hpos := List.length_pos_iff.mpr h0
  rw [padRight, Nat.mod_eq_of_lt h, Nat.mod_eq_of_lt (Nat.sub_lt (by decide) hpos)]

theorem padRight_append {a b : Bytes} (h : a.length = 32) :
    padRight (a ++ b) = a ++ padRight b := by
  rw [padRight, padRight, List.length_append, h, Nat.add_mod_left, List.append_assoc]

theorem fixedBytesGo_spec (fuel : Nat) (rest acc : Bytes) (h : rest.length < fuel) :
    fixedBytesGo fuel rest acc = acc ++ padRight rest := by
  fun_induction fixedBytesGo fuel rest acc with
  | case1 => cases h
  | case2 fuel rest acc he => rw [List.isEmpty_iff.mp he, padRight_nil, List.append_nil]
  | case3 fuel rest acc he b h32 ih =>
    have hlen : 32 ≤ rest.length := h32 ▸ List.length_take_le' 32 rest
    have hdrop : (rest.drop 32).length < fuel := List.length_drop ▸
      Nat.lt_of_lt_of_le (Nat.sub_lt_of_pos_le (by decide) hlen) (Nat.le_of_lt_succ h)
    rw [ih hdrop, List.append_assoc, ← padRight_append h32, List.take_append_drop]
  | case4 fuel rest acc he b h32 =>
    have hlen : rest.length < 32 := Nat.lt_of_not_le (mt List.length_take_of_le h32)
    rw [List.append_assoc, show b = rest from List.take_of_length_le (Nat.le_of_lt hlen),
      padRight_short (mt List.isEmpty_iff.mpr he) hlen]

theorem fixedBytesAppend_spec (acc data : Bytes) :
    fixedBytesAppend acc data = acc ++ padRight data :=
  fixedBytesGo_spec _ _ _ (Nat.lt_succ_self _)

theorem word_length (n : Nat) : (word n).length = 32 := natBEw_length 32 n

theorem beNat_word {n : Nat} (h : n < 2 ^ 256) : beNat (word n) = n := by
  rw [word, beNat_natBEw, Nat.mod_eq_of_lt h]

theorem padU32_eq_word {v : Nat} (h : v < 2 ^ 32) : padU32 v = word v :=
  (natBEw_widen 28 4 h).symm

theorem padBigUint_eq (n : Nat) :
    padBigUint n = if n < 2 ^ 256 then .ok (word n) else .error .unsupportedNumberSize := by
  have hiff : (natBE n).length ≤ 32 ↔ n < 2 ^ 256 := natBE_length_le_iff 32 n
  fun_cases padBigUint n
  next h => rw [if_neg (mt hiff.mpr (Nat.not_le.mpr h))]
  next h =>
    rw [if_pos (hiff.mp (Nat.not_lt.mp h)), pad_natBE (Nat.not_lt.mp h)]
    rfl

theorem tail_length (t : Tok) : (Sol.tail t).length = tailLen t := by
  cases t with
  | bytes b | string b =>
    rw [Sol.tail, List.length_append, word_length, padRight_length, Nat.add_comm]
    exact (Nat.succ_mul _ 32).symm
  | _ => rfl

theorem head_length {t : Tok} (off : Nat) (hf : Tok.fits t) : (Sol.head t off).length = 32 := by
  cases t with
  | bytes32 b => exact hf
  | _ => exact word_length _

theorem headAppend_spec (t : Tok) (acc : Bytes) (off : Nat)
    (hf : Tok.fits t) (hoff : off < 2 ^ 32) :
    headAppend t acc off = .ok (acc ++ Sol.head t off) := by
  cases t with
  | uint256 n =>
    simp only [headAppend, padBigUint_eq, if_pos (show n < 2 ^ 256 from hf), Sol.head]
    rfl
  | bytes32 b =>
    simp only [headAppend, fixedBytesAppend_spec, padRight_of_32 hf, Sol.head]
    rfl
  | bytes b | string b =>
    simp only [headAppend, padU32_eq_word hoff, Sol.head]
    rfl
  | uint8 n =>
    simp only [headAppend, padU32_eq_word (Nat.lt_trans n.toNat_lt (by decide)), Sol.head]
    rfl

theorem tailAppend_spec (t : Tok) (acc : Bytes) (h : (Sol.tail t).length < 2 ^ 32) :
    tailAppend t acc = acc ++ Sol.tail t := by
  cases t with
  | bytes b | string b =>
    have hb : b.length < 2 ^ 32 := by
      simp only [Sol.tail, padRight, List.length_append] at h
      omega
    simp only [tailAppend, padBytesAppend, fixedBytesAppend_spec, padU32_eq_word hb, Sol.tail,
      List.append_assoc]
  | _ => simp only [tailAppend, Sol.tail, List.append_nil]

theorem tails_cons (t : Tok) (ts : List Tok) : tails (t :: ts) = Sol.tail t ++ tails ts := rfl

theorem headPass_spec (ts : List Tok) (acc : Bytes) (off : Nat)
    (hf : ∀ t ∈ ts, Tok.fits t) (hoff : off + (tails ts).length < 2 ^ 32) :
    headPass ts acc off = .ok (acc ++ heads ts off) := by
  induction ts generalizing acc off with
  | nil => simp [headPass, heads]
  | cons t ts ih =>
    obtain ⟨hft, hfts⟩ := List.forall_mem_cons.mp hf
    rw [headPass, headAppend_spec t acc off hft (Nat.lt_of_add_right_lt hoff)]
    rw [tails_cons, List.length_append, ← Nat.add_assoc] at hoff
    -- reduces the `match Except.ok _ with` the rewrite has left; the next `rw` does not see through it
    simp only []
    rw [← tail_length, ih _ _ hfts hoff, heads, List.append_assoc]

theorem tailPass_spec (ts : List Tok) (acc : Bytes) (h : (tails ts).length < 2 ^ 32) :
    tailPass ts acc = acc ++ tails ts := by
  induction ts generalizing acc with
  | nil => simp [tailPass, tails]
  | cons t ts ih =>
    rw [tails_cons, List.length_append] at h
    rw [tailPass, tailAppend_spec t acc (Nat.lt_of_add_right_lt h), ih _ (Nat.lt_of_add_left_lt h),
      tails_cons, List.append_assoc]

theorem headsLen_eq (ts : List Tok) (a : Nat) :
    ts.foldl (fun a t => a + headLen t) a = a + 32 * ts.length := by
  induction ts generalizing a with
  | nil => rfl
  | cons t ts ih =>
    rw [List.foldl_cons, ih, headLen, List.length_cons, Nat.mul_succ, Nat.add_assoc,
      Nat.add_comm 32]

theorem heads_length (ts : List Tok) (off : Nat) (hf : ∀ t ∈ ts, Tok.fits t) :
    (heads ts off).length = 32 * ts.length := by
  induction ts generalizing off with
  | nil => rfl
  | cons t ts ih =>
    obtain ⟨hft, hfts⟩ := List.forall_mem_cons.mp hf
    rw [heads, List.length_append, head_length off hft, ih _ hfts, List.length_cons,
      Nat.mul_succ, Nat.add_comm]

theorem headPass_error {ts : List Tok} {n : Nat} (hmem : Tok.uint256 n ∈ ts) (hn : 2 ^ 256 ≤ n)
    (acc : Bytes) (off : Nat) : ∃ e, headPass ts acc off = .error e := by
  fun_induction headPass ts acc off with
  | case1 => cases hmem
  | case2 t ts acc off e hh => exact ⟨e, rfl⟩
  | case3 t ts acc off acc' hh ih =>
    rcases List.mem_cons.mp hmem with rfl | h
    · rw [headAppend, padBigUint_eq, if_neg (Nat.not_lt.mpr hn)] at hh
      cases hh
    · exact ih h

/-- `∀ t ∈ ts, Tok.fits t` as the conjunction of the conditions on the integer and `bytes32`
    fields, in field order (the other kinds always fit): it unfolds by computation on a literal
    token list. -/
def fitsAll : List Tok → Prop
  | [] => True
  | .uint256 n :: ts => n < 2 ^ 256 ∧ fitsAll ts
  | .bytes32 b :: ts => b.length = 32 ∧ fitsAll ts
  | _ :: ts => fitsAll ts

theorem fitsAll_iff {ts : List Tok} : fitsAll ts ↔ ∀ t ∈ ts, Tok.fits t := by
  induction ts with
  | nil => exact iff_of_true trivial (List.forall_mem_nil _)
  | cons t ts ih =>
    rw [List.forall_mem_cons, ← ih]
    cases t with
    | uint256 n | bytes32 b => exact Iff.rfl
    | _ => exact (and_iff_right trivial).symm

end Axelar.Abi
