/-
  The big-endian codecs of `Basic/Bytes`: `beNat` as positional notation (value of a concatenation,
  bound, splitting a string is division with remainder), `natBE` and `natBEw` as its inverses, and
  unique decodability of the length-prefixed encoding.
-/
import Axelar.Basic.Bytes
namespace Axelar

/-- Shortcut.  Instance search for `LawfulBEq UInt8` (needed by every proof that turns `a == b` or `a != b` on
    bytes into `a = b`) otherwise first walks the order-instance routes of `Std` and fails there by unfolding, at
    about 120 k heartbeats per proof. -/
instance : LawfulBEq UInt8 := instLawfulBEq

@[simp] theorem zeros_length (n : Nat) : (zeros n).length = n := List.length_replicate

@[simp] theorem natBEw_length (w n : Nat) : (natBEw w n).length = w := by
  fun_induction natBEw w n with
  | case1 => rfl
  | case2 w n ih => rw [List.length_append, ih, List.length_singleton]

@[simp] theorem u32be_length (n : Nat) : (u32be n).length = 4 := natBEw_length 4 n

theorem beNat_nil : beNat [] = 0 := rfl

theorem foldl_beNat (bs : Bytes) (acc : Nat) :
    bs.foldl (fun acc b => acc * 256 + b.toNat) acc = acc * 256 ^ bs.length + beNat bs := by
  induction bs generalizing acc with
  | nil => simp [beNat]
  | cons b bs ih =>
    rw [beNat, List.foldl_cons, List.foldl_cons, ih, ih (0 * 256 + _), List.length_cons,
      Nat.pow_succ', Nat.zero_mul, Nat.zero_add, Nat.add_mul, Nat.mul_assoc, Nat.add_assoc]

theorem beNat_append (a b : Bytes) : beNat (a ++ b) = beNat a * 256 ^ b.length + beNat b := by
  rw [beNat, List.foldl_append, foldl_beNat]
  rfl

theorem beNat_singleton (b : UInt8) : beNat [b] = b.toNat := by simp [beNat]

theorem beNat_cons (b : UInt8) (bs : Bytes) :
    beNat (b :: bs) = b.toNat * 256 ^ bs.length + beNat bs := by
  rw [← List.singleton_append, beNat_append, beNat_singleton]

theorem beNat_append_single (bs : Bytes) (b : UInt8) :
    beNat (bs ++ [b]) = beNat bs * 256 + b.toNat := by
  rw [beNat_append, beNat_singleton]
  rfl

theorem beNat_lt (b : Bytes) : beNat b < 256 ^ b.length := by
  induction b with
  | nil => simp [beNat_nil]
  | cons x b ih =>
    rw [beNat_cons, List.length_cons, Nat.pow_succ']
    exact Nat.lt_of_lt_of_le (Nat.add_lt_add_left ih _)
      (Nat.succ_mul .. ▸ Nat.mul_le_mul_right _ x.toNat_lt)

theorem beNat_zero_iff (a : Bytes) : beNat a = 0 ↔ a.all (· == 0) = true := by
  induction a with
  | nil => simp [beNat_nil]
  | cons x a ih =>
    simp [beNat_cons, Nat.add_eq_zero_iff, Nat.mul_eq_zero, ← ih, ← UInt8.toNat_inj]

/-- Splitting a byte string at `k` is Euclidean division of its value by `256 ^ (length - k)`:
    the first `k` bytes are the quotient, the others the remainder. -/
theorem beNat_take_drop (w : Bytes) (k : Nat) :
    beNat w / 256 ^ (w.length - k) = beNat (w.take k) ∧
      beNat w % 256 ^ (w.length - k) = beNat (w.drop k) := by
  rw [Nat.div_mod_unique (Nat.pow_pos (by decide)), ← List.length_drop, Nat.add_comm, Nat.mul_comm,
    ← beNat_append, List.take_append_drop]
  exact ⟨rfl, beNat_lt _⟩

theorem beNat_take (w : Bytes) (k : Nat) : beNat (w.take k) = beNat w / 256 ^ (w.length - k) :=
  (beNat_take_drop w k).1.symm

theorem beNat_drop (w : Bytes) (k : Nat) : beNat (w.drop k) = beNat w % 256 ^ (w.length - k) :=
  (beNat_take_drop w k).2.symm

theorem take_all_zero_iff (w : Bytes) (k : Nat) :
    (w.take k).all (· == 0) = true ↔ beNat w < 256 ^ (w.length - k) := by
  rw [← beNat_zero_iff, beNat_take, Nat.div_eq_zero_iff]
  exact or_iff_right (Nat.pos_iff_ne_zero.mp (Nat.pow_pos (by decide)))

theorem toNat_getD_last {w : Bytes} {k : Nat} (h : w.length = k + 1) :
    (w.getD k 0).toNat = beNat w % 256 := by
  have : w.drop k = [w.getD k 0] := by
    rw [List.getD_eq_getElem?_getD, List.getElem?_eq_getElem (h ▸ Nat.lt_succ_self k),
      Option.getD_some, List.drop_eq_getElem_cons, List.drop_of_length_le (Nat.le_of_eq h)]
  rw [← beNat_singleton, ← this, beNat_drop, h, Nat.add_sub_cancel_left, Nat.pow_one]

theorem toNat_ofNat_mod (n : Nat) : (UInt8.ofNat (n % 256)).toNat = n % 256 := by
  simp

theorem beNat_natBEw (w n : Nat) : beNat (natBEw w n) = n % 256 ^ w := by
  fun_induction natBEw w n with
  | case1 n => exact (Nat.mod_one n).symm
  | case2 w n ih =>
    rw [beNat_append_single, ih, toNat_ofNat_mod, Nat.pow_succ', Nat.mod_mul, Nat.add_comm,
      Nat.mul_comm]

theorem natBE_zero : natBE 0 = [] := by
  unfold natBE
  simp

theorem natBE_pos {n : Nat} (h : n ≠ 0) :
    natBE n = natBE (n / 256) ++ [UInt8.ofNat (n % 256)] := by
  rw [natBE, dif_neg h]

theorem beNat_natBE (n : Nat) : beNat (natBE n) = n := by
  fun_induction natBE n with
  | case1 => rfl
  | case2 n hn ih => rw [beNat_append_single, ih, toNat_ofNat_mod, Nat.div_add_mod']

theorem natBE_eq_natBEw (n : Nat) : natBE n = natBEw (natBE n).length n := by
  fun_induction natBE n with
  | case1 => rfl
  | case2 n hn ih => rw [List.length_append, List.length_singleton, natBEw, ← ih]

theorem natBE_length_le_iff (w n : Nat) : (natBE n).length ≤ w ↔ n < 256 ^ w := by
  fun_induction natBE n generalizing w with
  | case1 => exact iff_of_true (Nat.zero_le w) (Nat.pow_pos (by decide))
  | case2 n hn ih =>
    rw [List.length_append, List.length_singleton]
    cases w with
    | zero => exact iff_of_false (Nat.not_succ_le_zero _) (Nat.not_lt.mpr (Nat.pos_of_ne_zero hn))
    | succ w => rw [Nat.succ_le_succ_iff, ih, Nat.pow_succ, Nat.div_lt_iff_lt_mul (by decide)]

theorem natBEw_zero (w : Nat) : natBEw w 0 = zeros w := by
  induction w with
  | zero => rfl
  | succ w ih =>
    rw [natBEw, Nat.zero_div, ih]
    exact List.replicate_succ'.symm

theorem natBEw_add (k w n : Nat) : natBEw (k + w) n = natBEw k (n / 256 ^ w) ++ natBEw w n := by
  induction w generalizing n with
  | zero =>
    rw [Nat.pow_zero, Nat.div_one]
    exact (List.append_nil _).symm
  | succ w ih =>
    rw [← Nat.add_assoc, natBEw, natBEw, ih, Nat.div_div_eq_div_mul, Nat.pow_succ',
      List.append_assoc]

theorem natBEw_widen (k w : Nat) {n : Nat} (h : n < 256 ^ w) :
    natBEw (k + w) n = zeros k ++ natBEw w n := by
  rw [natBEw_add, Nat.div_eq_of_lt h, natBEw_zero]

theorem pad_natBE {w n : Nat} (h : (natBE n).length ≤ w) :
    zeros (w - (natBE n).length) ++ natBE n = natBEw w n := by
  have hn := (natBE_length_le_iff _ n).mp (Nat.le_refl _)
  conv => rhs; rw [← Nat.sub_add_cancel h, natBEw_widen _ _ hn, ← natBE_eq_natBEw]

theorem u32be_inj {a b : Nat} (h : u32be a = u32be b) (ha : a < 2 ^ 32) (hb : b < 2 ^ 32) : a = b := by
  have := congrArg beNat h
  rwa [u32be, u32be, beNat_natBEw, beNat_natBEw, Nat.mod_eq_of_lt ha, Nat.mod_eq_of_lt hb] at this

/-- the length-prefixed encoding is uniquely decodable in front of any continuation -/
theorem nestBuf_append_inj {a b r r' : Bytes} (h : nestBuf a ++ r = nestBuf b ++ r') (ha : a.length < 2 ^ 32)
    (hb : b.length < 2 ^ 32) : a = b ∧ r = r' := by
  simp only [nestBuf, List.append_assoc] at h
  obtain ⟨h1, h2⟩ := List.append_inj h (by simp)
  exact List.append_inj h2 (u32be_inj h1 ha hb)

end Axelar
