/-
  The factory's `deployInterchainToken` flow: its check of the nominated minter, and its third
  transaction — mint of the initial supply and hand-over of the roles, followed through the five
  calls to the token manager.
-/
import Axelar.Proofs.ItsLedger

namespace Axelar.ItsW
open Axelar Codec Its World TokenManager

/-- the factory's guard on the nominated minter: never the service itself, and present when nothing is minted -/
theorem factoryDeploy_minter {C : Crypto} {cx : ICtx} {salt n s : Bytes} {d supply : Nat} {m r : Bytes} {t t' : Tx}
    (h : factoryDeployInterchainToken C cx salt n s d supply m t = some (r, t')) :
    m ≠ cx.self ∧ (supply = 0 → Gateway.isZeroAddr m = false) := by
  unfold factoryDeployInterchainToken at h
  obtain ⟨_, _, _, h⟩ := bind_eq_some.mp h
  rw [getI_bind] at h
  obtain ⟨mb, t1, hm, _⟩ := bind_eq_some.mp h
  cases hb : m != cx.self
  · simp only [hb, if_false, ite_self, run_fail, reduceCtorEq] at hm
  · refine ⟨bne_iff_ne.mp hb, fun h0 => ?_⟩
    cases hz : Gateway.isZeroAddr m
    · rfl
    · simp only [h0, Nat.lt_irrefl, if_false, hz, Bool.not_true, run_fail, reduceCtorEq] at hm

/-- The mint step: the service, which held the minter role, mints the supply to the caller and then passes all three
    roles to the nominated minter. -/
theorem factoryMintStep_roles {C : Crypto} {cx : ICtx} {tm minter : Bytes} {supply : Nat} {t t' : Tx}
    (h : factoryMintStep C cx tm minter supply t = some ((), t')) (hk : t.w.kind tm = some .tokenManager)
    (hne : minter ≠ cx.self) :
    t'.w.kind tm = some .tokenManager ∧
    ((t.w.tms tm).roles cx.self).minter = true ∧
    (t'.w.tms tm).roles cx.self = {} ∧ (t'.w.tms tm).roles minter = ⟨true, true, true⟩ ∧
    (t'.w.tms tm).tokenIdentifier = (t.w.tms tm).tokenIdentifier ∧
    ∃ tk, tokOfBytes (t.w.tms tm).tokenIdentifier = some tk ∧ Led t.w t'.w nil (pt cx.caller (some tk) supply) := by
  simp only [factoryMintStep, bind_eq_some, run_pure, Option.some.injEq, Prod.mk.injEq] at h
  obtain ⟨r1, t1, h1, r2, t2, h2, r3, t3, h3, r4, t4, h4, r5, t5, h5, _, rfl⟩ := h
  -- `mint`: the manager's state stays, the supply is minted and sent to the caller
  obtain ⟨o1, c1, m1, k1, _, _, _, w1, e1, a1⟩ := subcall_tm_call h1 hk
  obtain ⟨_, hmint, _, s1, _, tk, htk, fx1⟩ := mint_eq_ok (call_mint c1)
  -- `rewrite`, not `rw`: after each rewrite `rw` tries `rfl` on the whole goal
  rewrite [fx1, topBig_encNat] at e1
  have L1 := (led_effects_mint_send e1).2
  rewrite [s1, upd_self] at m1
  -- the four role operations (`call_role` lists them in the order the flow calls them), each on the
  -- state the previous one left
  obtain ⟨⟨_, hr2⟩, k2, a2⟩ := subcall_role h2 (k1 ▸ hk) fun _ c => (call_role c).1 rfl
  obtain ⟨⟨_, hr3⟩, k3, a3⟩ := subcall_role h3 k2 fun _ c => (call_role c).2.1 rfl
  obtain ⟨⟨_, hr4⟩, k4, a4⟩ := subcall_role h4 k3 fun _ c => (call_role c).2.2.1 rfl
  obtain ⟨⟨_, hr5⟩, k5, a5⟩ := subcall_role h5 k4 fun _ c => (call_role c).2.2.2 rfl
  have e2 := (transferRole_eq_ok hr2).2
  have e3 : (removeRole (t2.w.tms tm) cx.self FLOW_LIMITER).1 = t3.w.tms tm := congrArg Prod.fst (Except.ok.inj hr3)
  have e4 : (addRole (t3.w.tms tm) minter FLOW_LIMITER).1 = t4.w.tms tm := congrArg Prod.fst (Except.ok.inj hr4)
  have e5 := (transferRole_eq_ok hr5).2
  rewrite [m1] at e2
  rewrite [e5, ← e4, ← e3, e2]
  refine ⟨k5, (intersects_MINTER _).symm.trans hmint, ?_, ?_, by simp only [addRole, removeRole], tk, htk,
    L1.congr rfl (by rw [a5, a4, a3, a2, a1])⟩
  · simp [addRole_roles, removeRole_roles, upd, hne.symm, TokenManager.remove, MINTER, OPERATOR, FLOW_LIMITER]
  · simp [addRole_roles, removeRole_roles, upd, hne, TokenManager.insert, MINTER, OPERATOR, FLOW_LIMITER]

end Axelar.ItsW
