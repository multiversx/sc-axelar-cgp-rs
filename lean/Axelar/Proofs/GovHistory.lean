/-
  All-histories accounting of the governance time lock: over every sequence of authenticated
  commands, dispatches, deliveries of callbacks (one per dispatch, in any order, with any
  outcome) and other endpoint calls, the number of dispatches of a proposal whose call
  succeeded never exceeds the number of times it was scheduled.
-/
import Axelar.Proofs.GovCall
namespace Axelar.Governance
open Axelar Codec

/-- the contract with ghost history: time-lock dispatches in flight (registered, callback not yet
    run), and per proposal hash the number of accepted schedule commands and of dispatches whose
    call succeeded -/
structure Hist where
  st : State
  inflight : List Dispatch := []
  scheduled : Bytes → Nat := fun _ => 0
  succeeded : Bytes → Nat := fun _ => 0

/-- one step of a history; the schedule chooses freely among them.  Callbacks run once per
    registered dispatch (`erase`), in any order, with the outcome the schedule dictates.
    `other` stands for every endpoint / callback that leaves the time locks alone (operator
    proposals, withdrawals, operatorship) — `C12.locks_and_approvals_frame`. -/
inductive Step (C : Crypto) : Hist → Hist → Prop
  | command (h : Hist) (now : Nat) (cmd : Command) (t cd : Bytes) (v eta : Nat) (st' : State) (evs : List Ev) :
      processCommand C h.st now cmd t cd v eta = .ok (st', evs) →
      Step C h { h with st := st',
                        scheduled := if cmd = .schedule then
                          upd h.scheduled (proposalHash C t cd v) (h.scheduled (proposalHash C t cd v) + 1)
                          else h.scheduled }
  | dispatch (h : Hist) (ctx : Ctx) (t cd : Bytes) (v : Nat) (out : Out) (d : Dispatch) :
      executeProposal C h.st ctx t cd v = .ok out → out.dispatch = some d →
      Step C h { h with st := out.st, inflight := d :: h.inflight }
  | callbackOk (h : Hist) (d : Dispatch) (rs : List Bytes) :
      d ∈ h.inflight → d.operatorProposal = false →
      Step C h { h with st := (callback h.st d true rs).st, inflight := h.inflight.erase d,
                        succeeded := upd h.succeeded d.hash (h.succeeded d.hash + 1) }
  | callbackFail (h : Hist) (d : Dispatch) (rs : List Bytes) :
      d ∈ h.inflight → d.operatorProposal = false →
      Step C h { h with st := (callback h.st d false rs).st, inflight := h.inflight.erase d }
  | other (h : Hist) (st' : State) : st'.eta = h.st.eta → Step C h { h with st := st' }

/-- number of time-lock dispatches of `x` in flight -/
def flying (l : List Dispatch) (x : Bytes) : Nat := (l.filter (fun d => d.hash == x)).length

def live (st : State) (x : Bytes) : Nat := if st.eta x ≠ 0 then 1 else 0

/-- the accounting invariant, per proposal hash -/
def Inv (h : Hist) : Prop := ∀ x, live h.st x + flying h.inflight x + h.succeeded x ≤ h.scheduled x

theorem flying_cons (d : Dispatch) (l : List Dispatch) (x : Bytes) :
    flying (d :: l) x = flying l x + if x = d.hash then 1 else 0 := by
  simp only [flying, List.filter_cons, beq_iff_eq, @eq_comm _ d.hash]
  split <;> rfl

theorem flying_erase {d : Dispatch} {l : List Dispatch} (hm : d ∈ l) (x : Bytes) :
    flying (l.erase d) x + (if x = d.hash then 1 else 0) = flying l x := by
  rw [← flying_cons]
  exact ((List.perm_cons_erase hm).filter _).length_eq.symm

section
variable {st st' : State} {k : Bytes}

theorem live_congr (h : st'.eta = st.eta) (x : Bytes) : live st' x = live st x := by
  unfold live
  rw [h]

theorem live_upd_le {e : Nat} (h : st'.eta = upd st.eta k e) (x : Bytes) :
    live st' x ≤ live st x + if x = k then 1 else 0 :=
  ind_upd_le (· ≠ 0) h x

theorem live_clear_le (h : st'.eta = upd st.eta k 0) (x : Bytes) : live st' x ≤ live st x :=
  ind_upd_clear_le (· ≠ 0) h (· rfl) x

theorem live_clear (h : st'.eta = upd st.eta k 0) (hk : st.eta k ≠ 0) (x : Bytes) :
    live st' x + (if x = k then 1 else 0) = live st x :=
  ind_upd_clear (· ≠ 0) h (· rfl) hk x

end

theorem step_inv {C : Crypto} {h h' : Hist} (hs : Step C h h') (hi : Inv h) : Inv h' := by
  intro x
  have hx := hi x
  cases hs with
  | command now cmd t cd v eta st' evs hp =>
    have hst := processCommand_st hp
    cases cmd with
    | schedule =>
      have := live_upd_le (congrArg State.eta hst) x
      simp only [if_true, upd_add]
      omega
    | cancel =>
      have := live_clear_le (congrArg State.eta hst) x
      simp only [reduceCtorEq, if_false]
      omega
    | _ => rwa [hst]
  | dispatch ctx t cd v out d he hd =>
    obtain ⟨h0, _, _, _, _, _, hout⟩ := executeProposal_eq_ok he
    rw [hout] at hd
    cases hd
    have := live_clear (congrArg (·.st.eta) hout) h0 x
    simp only [flying_cons]
    omega
  | callbackOk d rs hm =>
    have := flying_erase hm x
    simp only [callback_true_st, upd_add]
    omega
  | callbackFail d rs hm hop =>
    have := flying_erase hm x
    have := live_upd_le ((callback_eta h.st d false rs).trans (if_pos ⟨rfl, hop⟩)) x
    simp only
    omega
  | other st' he => rwa [live_congr he]

/-- histories: any finite sequence of steps -/
inductive Reach (C : Crypto) : Hist → Hist → Prop
  | refl (h : Hist) : Reach C h h
  | step (a b c : Hist) : Reach C a b → Step C b c → Reach C a c

theorem reach_inv {C : Crypto} {a b : Hist} (hr : Reach C a b) (hi : Inv a) : Inv b := by
  induction hr with
  | refl => exact hi
  | step b c _ hs ih => exact step_inv hs ih

theorem init_inv {st : State} (h0 : ∀ x, st.eta x = 0) : Inv { st := st } := by
  intro x
  simp [live, h0, flying]

end Axelar.Governance
