/-
  The token manager, endpoint by endpoint: what a successful run of each returns (`…_eq_ok`), the complete case
  analysis of the dispatcher (`CallOk`, `call_ok`), what any successful call does to the state (`call_state`,
  `call_identity`), and the dispatcher evaluated at the endpoints the token service calls.
-/
import Axelar.Model.TokenManager
import Axelar.Proofs.Basics
namespace Axelar.TokenManager
open Axelar Codec

/-- `st'` differs from `st` at most in `roles` and `proposed` -/
structure SameRest (st st' : State) : Prop where
  service : st'.service = st.service
  implType : st'.implType = st.implType
  tokenId : st'.tokenId = st.tokenId
  tokenIdentifier : st'.tokenIdentifier = st.tokenIdentifier
  flowLimit : st'.flowLimit = st.flowLimit
  flowIn : st'.flowIn = st.flowIn
  flowOut : st'.flowOut = st.flowOut

-- primed: the proofs of the other `SameRest.…` lemmas run with that namespace open, where a `SameRest.rfl` would
-- shadow `rfl`
theorem SameRest.rfl' (st : State) : SameRest st st := ⟨rfl, rfl, rfl, rfl, rfl, rfl, rfl⟩

theorem SameRest.trans {a b c : State} (h1 : SameRest a b) (h2 : SameRest b c) : SameRest a c :=
  ⟨h2.service.trans h1.service, h2.implType.trans h1.implType, h2.tokenId.trans h1.tokenId,
   h2.tokenIdentifier.trans h1.tokenIdentifier, h2.flowLimit.trans h1.flowLimit,
   h2.flowIn.trans h1.flowIn, h2.flowOut.trans h1.flowOut⟩

theorem SameRest.of_roles (st : State) (r : Bytes → Roles) (p : Bytes × Bytes → Roles) :
    SameRest st { st with roles := r, proposed := p } := ⟨rfl, rfl, rfl, rfl, rfl, rfl, rfl⟩

theorem intersects_remove (a r : Roles) : intersects (remove a r) r = false := by
  simp only [intersects, remove, Bool.and_assoc, Bool.not_and_self, Bool.and_false, Bool.or_false]

theorem insert_idem (a r : Roles) : insert (insert a r) r = insert a r := by
  simp only [insert, Bool.or_assoc, Bool.or_self]

theorem intersects_MINTER (r : Roles) : intersects r MINTER = r.minter := by
  simp [intersects, MINTER]

theorem addRole_roles (st : State) (a : Bytes) (r : Roles) :
    (addRole st a r).1.roles = upd st.roles a (insert (st.roles a) r) ∧
    (addRole st a r).1.proposed = st.proposed := ⟨rfl, rfl⟩

theorem removeRole_roles (st : State) (a : Bytes) (r : Roles) :
    (removeRole st a r).1.roles = upd st.roles a (remove (st.roles a) r) ∧
    (removeRole st a r).1.proposed = st.proposed := ⟨rfl, rfl⟩

theorem transferRole_eq_ok {st st' : State} {src dst : Bytes} {r : Roles} {evs : List Ev}
    (h : transferRole st src dst r = .ok (st', evs)) :
    contains (st.roles src) r = true ∧ st' = (addRole (removeRole st src r).1 dst r).1 := by
  obtain ⟨hc, h⟩ := ite_else_error_eq_ok.mp h
  cases h
  exact ⟨hc, rfl⟩

theorem acceptRole_eq_ok {st st' : State} {src dst : Bytes} {r : Roles} {evs : List Ev}
    (h : acceptRole st src dst r = .ok (st', evs)) :
    st.proposed (src, dst) = r ∧ r.isEmpty = false ∧
    transferRole { st with proposed := upd st.proposed (src, dst) {} } src dst r = .ok (st', evs) := by
  obtain ⟨hc, h⟩ := ite_else_error_eq_ok.mp h
  simp only [Bool.and_eq_true, Bool.not_eq_true', beq_iff_eq] at hc
  exact ⟨hc.2, hc.2 ▸ hc.1, h⟩

theorem roleOut_eq_ok {r : Except Err (State × List Ev)} {out : Out} (h : roleOut r = .ok out) :
    ∃ evs, r = .ok (out.st, evs) ∧ out.effects = [] := by
  unfold roleOut at h
  split at h <;> cases h
  exact ⟨_, rfl, rfl⟩

/-- the nine role endpoints with their guards -/
inductive RoleStep (st : State) (ctx : Ctx) : String → Except Err (State × List Ev) → Prop
  | addFL (a : Bytes) : onlyRole st ctx OPERATOR = true →
      RoleStep st ctx "addFlowLimiter" (.ok (addRole st a FLOW_LIMITER))
  | removeFL (a : Bytes) : onlyRole st ctx OPERATOR = true →
      RoleStep st ctx "removeFlowLimiter" (.ok (removeRole st a FLOW_LIMITER))
  | transferFL (a b : Bytes) : onlyRole st ctx OPERATOR = true →
      RoleStep st ctx "transferFlowLimiter" (transferRole st a b FLOW_LIMITER)
  | transferOp (a : Bytes) : onlyRole st ctx OPERATOR = true →
      RoleStep st ctx "transferOperatorship" (transferRole st ctx.caller a OPERATOR)
  | proposeOp (a : Bytes) : onlyRole st ctx OPERATOR = true →
      RoleStep st ctx "proposeOperatorship" (proposeRole st ctx.caller a OPERATOR)
  | acceptOp (a : Bytes) : RoleStep st ctx "acceptOperatorship" (acceptRole st a ctx.caller OPERATOR)
  | transferMint (a : Bytes) : onlyRole st ctx MINTER = true →
      RoleStep st ctx "transferMintership" (transferRole st ctx.caller a MINTER)
  | proposeMint (a : Bytes) : onlyRole st ctx MINTER = true →
      RoleStep st ctx "proposeMintership" (proposeRole st ctx.caller a MINTER)
  | acceptMint (a : Bytes) : RoleStep st ctx "acceptMintership" (acceptRole st a ctx.caller MINTER)

theorem roleStep_same {st st' : State} {ctx : Ctx} {func : String} {r : Except Err (State × List Ev)}
    {evs : List Ev} (hr : RoleStep st ctx func r) (h : r = .ok (st', evs)) : SameRest st st' := by
  cases hr with
  | addFL | removeFL =>
    cases h
    exact .of_roles st _ _
  | transferFL | transferOp | transferMint =>
    obtain ⟨_, rfl⟩ := transferRole_eq_ok h
    exact .of_roles st _ _
  | proposeOp | proposeMint =>
    obtain ⟨_, h⟩ := ite_else_error_eq_ok.mp h
    cases h
    exact .of_roles st _ _
  | acceptOp | acceptMint =>
    obtain ⟨_, rfl⟩ := transferRole_eq_ok (acceptRole_eq_ok h).2.2
    exact .of_roles st _ _

theorem addFlow_eq_some {L a c x v : Nat} (h : addFlow L a c x = some v) :
    x ≤ L ∧ v = a + x ∧ v ≤ c + L := by
  unfold addFlow at h
  split at h
  · rename_i hc
    simp only [Bool.and_eq_true, decide_eq_true_eq] at hc
    cases h
    exact ⟨hc.2, rfl, hc.1⟩
  · cases h

/-- the shape `addFlowIn` and `addFlowOut` share: no limit, or the check of `addFlow` passed -/
theorem flowGuard_eq_ok {L a c x : Nat} {st st' : State} {g : Nat → State}
    (h : (if L = 0 then Except.ok st else
          match addFlow L a c x with
          | some v => .ok (g v)
          | none => .error Err.flowLimit) = .ok st') :
    (L = 0 ∧ st' = st) ∨ (L ≠ 0 ∧ x ≤ L ∧ a + x ≤ c + L ∧ st' = g (a + x)) := by
  split at h
  · rename_i h0
    cases h
    exact .inl ⟨h0, rfl⟩
  · rename_i h0
    split at h
    · rename_i v hv
      obtain ⟨hx, rfl, hc⟩ := addFlow_eq_some hv
      cases h
      exact .inr ⟨h0, hx, hc, rfl⟩
    · cases h

theorem addFlowIn_eq_ok {st st' : State} {now amt : Nat} (h : addFlowIn st now amt = .ok st') :
    ∃ f, st' = { st with flowIn := f } ∧
      ((st.flowLimit = 0 ∧ f = st.flowIn) ∨
       (st.flowLimit ≠ 0 ∧ amt ≤ st.flowLimit ∧
        st.flowIn (epochOf now) + amt ≤ st.flowOut (epochOf now) + st.flowLimit ∧
        f = upd st.flowIn (epochOf now) (st.flowIn (epochOf now) + amt))) := by
  rcases flowGuard_eq_ok h with ⟨h0, rfl⟩ | ⟨h0, a, c, rfl⟩
  · exact ⟨_, rfl, .inl ⟨h0, rfl⟩⟩
  · exact ⟨_, rfl, .inr ⟨h0, a, c, rfl⟩⟩

theorem addFlowOut_eq_ok {st st' : State} {now amt : Nat} (h : addFlowOut st now amt = .ok st') :
    ∃ f, st' = { st with flowOut := f } ∧
      ((st.flowLimit = 0 ∧ f = st.flowOut) ∨
       (st.flowLimit ≠ 0 ∧ amt ≤ st.flowLimit ∧
        st.flowOut (epochOf now) + amt ≤ st.flowIn (epochOf now) + st.flowLimit ∧
        f = upd st.flowOut (epochOf now) (st.flowOut (epochOf now) + amt))) := by
  rcases flowGuard_eq_ok h with ⟨h0, rfl⟩ | ⟨h0, a, c, rfl⟩
  · exact ⟨_, rfl, .inl ⟨h0, rfl⟩⟩
  · exact ⟨_, rfl, .inr ⟨h0, a, c, rfl⟩⟩

theorem egldOrSingleFungibleEsdt_eq_ok {ctx : Ctx} {tok : Tok} {amt : Nat}
    (h : egldOrSingleFungibleEsdt ctx = .ok (tok, amt)) :
    (ctx.esdt = [] ∧ tok = none ∧ amt = ctx.egld) ∨
    (∃ t, ctx.esdt = [(t, 0, amt)] ∧ ctx.egld = 0 ∧ tok = some t) := by
  unfold egldOrSingleFungibleEsdt at h
  split at h
  · rename_i he
    cases h
    exact .inl ⟨he, rfl, rfl⟩
  · rename_i t a he
    obtain ⟨h0, h⟩ := ite_else_error_eq_ok.mp h
    cases h
    exact .inr ⟨t, he, h0, rfl⟩
  · cases h

theorem requireCorrectToken_eq_ok {st : State} {ctx : Ctx} {tok : Tok} {amount : Nat}
    (h : requireCorrectToken st ctx = .ok (tok, amount)) :
    tok = tokOfBytes st.tokenIdentifier ∧ egldOrSingleFungibleEsdt ctx = .ok (tok, amount) := by
  revert h
  fun_cases requireCorrectToken st ctx
  -- a result `.ok _` comes from the one successful branch
  all_goals
    intro h
    cases h
  next heq he => exact ⟨beq_iff_eq.mp heq, he⟩

theorem giveToken_eq_ok {st : State} {ctx : Ctx} {dest : Bytes} {amount : Nat} {out : Out}
    (h : giveToken st ctx dest amount = .ok out) :
    ctx.caller = st.service ∧ addFlowIn st ctx.now amount = .ok out.st ∧ out.issue = none ∧
    out.results = [st.tokenIdentifier, encNat amount] ∧
    ((isMintBurnKind st.implType = true ∧ ∃ t, tokOfBytes st.tokenIdentifier = some t ∧
        out.effects = [.mint t amount, .send dest (some t) amount]) ∨
     (isMintBurnKind st.implType = false ∧
        out.effects = [.send dest (tokOfBytes st.tokenIdentifier) amount])) := by
  revert h
  fun_cases giveToken st ctx dest amount
  all_goals
    intro h
    cases h
  next hc _ hf _ hk t ht => exact ⟨by simpa using hc, hf, rfl, rfl, .inl ⟨hk, t, ht, by rw [← ht]⟩⟩
  next hc _ hf _ hk => exact ⟨by simpa using hc, hf, rfl, rfl, .inr ⟨by simpa using hk, rfl⟩⟩

theorem takeToken_eq_ok {st : State} {ctx : Ctx} {out : Out} (h : takeToken st ctx = .ok out) :
    ctx.caller = st.service ∧ out.issue = none ∧
    ∃ tok amount, requireCorrectToken st ctx = .ok (tok, amount) ∧
      addFlowOut st ctx.now amount = .ok out.st ∧ out.results = [encNat amount] ∧
      ((isMintBurnKind st.implType = true ∧ ∃ t, tok = some t ∧ out.effects = [.burn t amount]) ∨
       (isMintBurnKind st.implType = false ∧ out.effects = [])) := by
  revert h
  fun_cases takeToken st ctx
  all_goals
    intro h
    cases h
  next hc amount _ hf hk t hr =>
    exact ⟨by simpa using hc, rfl, _, amount, hr, hf, rfl, .inl ⟨hk, t, rfl, rfl⟩⟩
  next hc tok amount hr _ hf hk =>
    exact ⟨by simpa using hc, rfl, tok, amount, hr, hf, rfl, .inr ⟨by simpa using hk, rfl⟩⟩

theorem setFlowLimit_eq_ok {st : State} {ctx : Ctx} {l : Nat} {out : Out} (h : setFlowLimit st ctx l = .ok out) :
    intersects (st.roles ctx.caller) FLOW_LIMITER = true ∧ out.st = { st with flowLimit := l } ∧
    out.effects = [] ∧ out.issue = none := by
  simp only [setFlowLimit, onlyRole, ite_error_eq_ok, Bool.not_eq_true', Bool.not_eq_false] at h
  obtain ⟨hr, h⟩ := h
  cases h
  exact ⟨hr, rfl, rfl, rfl⟩

theorem mint_eq_ok {st : State} {ctx : Ctx} {a : Bytes} {amt : Nat} {out : Out} (h : mint st ctx a amt = .ok out) :
    st.implType = 0 ∧ intersects (st.roles ctx.caller) MINTER = true ∧ st.tokenIdentifier.isEmpty = false ∧
    out.st = st ∧ out.issue = none ∧
    ∃ t, tokOfBytes st.tokenIdentifier = some t ∧ out.effects = [.mint t amt, .send a (some t) amt] := by
  revert h
  fun_cases mint st ctx a amt
  all_goals
    intro h
    cases h
  next h0 hr hs t ht =>
    exact ⟨by simpa using h0, by simpa [onlyRole] using hr, by simpa using hs, rfl, rfl, t, ht, rfl⟩

theorem burn_eq_ok {st : State} {ctx : Ctx} {out : Out} (h : burn st ctx = .ok out) :
    st.implType = 0 ∧ intersects (st.roles ctx.caller) MINTER = true ∧ st.tokenIdentifier.isEmpty = false ∧
    out.st = st ∧ out.issue = none ∧
    ∃ t amount, requireCorrectToken st ctx = .ok (some t, amount) ∧ out.effects = [.burn t amount] := by
  revert h
  fun_cases burn st ctx
  all_goals
    intro h
    cases h
  next h0 hr hs amount t hreq =>
    exact ⟨by simpa using h0, by simpa [onlyRole] using hr, by simpa using hs, rfl, rfl, t, amount, hreq, rfl⟩

theorem deployInterchainToken_eq_ok {st : State} {ctx : Ctx} {m : Option Bytes} {n s : Bytes} {d : Nat} {out : Out}
    (h : deployInterchainToken st ctx m n s d = .ok out) :
    ctx.esdt = [] ∧ st.implType = 0 ∧ st.tokenIdentifier = [] ∧
    (ctx.caller = st.service ∨ intersects (st.roles ctx.caller) MINTER = true) ∧
    out.st = (addRole (addRole st ctx.self MINTER).1 (m.getD zeroAddr) MINTER).1 ∧ out.effects = [] := by
  simp only [deployInterchainToken, ite_error_eq_ok, bne_iff_ne, Decidable.not_not, Bool.not_eq_true',
    Bool.not_eq_false, List.isEmpty_iff, Bool.or_eq_true, beq_iff_eq] at h
  obtain ⟨h1, h2, h3, h4, _, _, h⟩ := h
  cases h
  exact ⟨h1, h2, h3, h4, rfl, rfl⟩

theorem view_eq_ok {st : State} {rs : List Bytes} {out : Out} (h : view st rs = .ok out) :
    out.st = st ∧ out.effects = [] ∧ out.issue = none := by
  cases h
  exact ⟨rfl, rfl, rfl⟩

/-- What a successful call can be: one of the three payable endpoints, or a call without any payment of one of
    the others, with the outcome of the function behind it (the nine role endpoints collected in `RoleStep`). -/
inductive CallOk (st : State) (ctx : Ctx) (func : String) (out : Out) : Prop
  | takeToken (hf : func = "takeToken") (h : takeToken st ctx = .ok out)
  | burn (hf : func = "burn") (h : burn st ctx = .ok out)
  | deploy {m n s d} (hf : func = "deployInterchainToken") (h : deployInterchainToken st ctx m n s d = .ok out)
  | giveToken {dest amount} (hf : func = "giveToken") (hp : notPayable ctx = true)
      (h : giveToken st ctx dest amount = .ok out)
  | setFlowLimit {l} (hf : func = "setFlowLimit") (hp : notPayable ctx = true) (h : setFlowLimit st ctx l = .ok out)
  | mint {a amt} (hf : func = "mint") (hp : notPayable ctx = true) (h : mint st ctx a amt = .ok out)
  | role {r} (hr : RoleStep st ctx func r) (hp : notPayable ctx = true) (h : roleOut r = .ok out)
  | view {rs} (hp : notPayable ctx = true) (h : view st rs = .ok out)

theorem call_ok {st : State} {ctx : Ctx} {func : String} {args : List Bytes} {out : Out}
    (h : call st ctx func args = .ok out) : CallOk st ctx func out := by
  unfold call at h
  split at h
  · exact .takeToken rfl h
  · exact .burn rfl h
  · split at h
    · exact .deploy rfl h
    · cases h
  · obtain ⟨hp, h⟩ := ite_error_eq_ok.mp h
    replace hp : notPayable ctx = true := by simpa using hp
    -- the twelve endpoints in the dispatcher's order, `topFixed_match` taking each past the decoding of its address
    split at h
    · obtain ⟨hr, h⟩ := ite_else_error_eq_ok.mp (topFixed_match h)
      exact .role (.addFL _ hr) hp h
    · obtain ⟨hr, h⟩ := ite_else_error_eq_ok.mp (topFixed_match h)
      exact .role (.removeFL _ hr) hp h
    · split at h
      · obtain ⟨hr, h⟩ := ite_else_error_eq_ok.mp h
        exact .role (.transferFL _ _ hr) hp h
      · cases h
    · exact .setFlowLimit rfl hp h
    · exact .giveToken rfl hp (topFixed_match h)
    · exact .mint rfl hp (topFixed_match h)
    · obtain ⟨hr, h⟩ := ite_else_error_eq_ok.mp (topFixed_match h)
      exact .role (.transferOp _ hr) hp h
    · obtain ⟨hr, h⟩ := ite_else_error_eq_ok.mp (topFixed_match h)
      exact .role (.proposeOp _ hr) hp h
    · exact .role (.acceptOp _) hp (topFixed_match h)
    · obtain ⟨hr, h⟩ := ite_else_error_eq_ok.mp (topFixed_match h)
      exact .role (.transferMint _ hr) hp h
    · obtain ⟨hr, h⟩ := ite_else_error_eq_ok.mp (topFixed_match h)
      exact .role (.proposeMint _ hr) hp h
    · exact .role (.acceptMint _) hp (topFixed_match h)
    -- the views: four of one address, `getProposedRoles` of two, nine of nothing; last, the unknown endpoint
    iterate 4 exact .view hp (topFixed_match h)
    · split at h
      · exact .view hp h
      · cases h
    iterate 9 exact .view hp h
    · cases h

theorem call_cases (st : State) (ctx : Ctx) (func : String) (args : List Bytes) (out : Out)
    (h : call st ctx func args = .ok out) :
    (∃ dest amount, func = "giveToken" ∧ giveToken st ctx dest amount = .ok out) ∨
    (func = "takeToken" ∧ takeToken st ctx = .ok out) ∨
    (∃ l, func = "setFlowLimit" ∧ setFlowLimit st ctx l = .ok out) ∨
    (∃ a amt, func = "mint" ∧ mint st ctx a amt = .ok out) ∨
    (func = "burn" ∧ burn st ctx = .ok out) ∨
    (∃ m n s d, func = "deployInterchainToken" ∧ deployInterchainToken st ctx m n s d = .ok out) ∨
    (∃ r, RoleStep st ctx func r ∧ roleOut r = .ok out) ∨
    (out.st = st ∧ out.effects = [] ∧ out.issue = none) := by
  cases call_ok h with
  | giveToken hf _ h => exact .inl ⟨_, _, hf, h⟩
  | takeToken hf h => exact .inr (.inl ⟨hf, h⟩)
  | setFlowLimit hf _ h => exact .inr (.inr (.inl ⟨_, hf, h⟩))
  | mint hf _ h => exact .inr (.inr (.inr (.inl ⟨_, _, hf, h⟩)))
  | burn hf h => exact .inr (.inr (.inr (.inr (.inl ⟨hf, h⟩))))
  | deploy hf h => exact .inr (.inr (.inr (.inr (.inr (.inl ⟨_, _, _, _, hf, h⟩)))))
  | role hr _ h => exact .inr (.inr (.inr (.inr (.inr (.inr (.inl ⟨_, hr, h⟩))))))
  | view _ h => exact .inr (.inr (.inr (.inr (.inr (.inr (.inr (view_eq_ok h)))))))

/-- **What a successful call does to the state**: the two custody endpoints run the flow accounting, `setFlowLimit`
    (by a flow limiter) sets the limit, and every other endpoint leaves all but `roles` / `proposed` alone. -/
theorem call_state {st : State} {ctx : Ctx} {func : String} {args : List Bytes} {out : Out}
    (h : call st ctx func args = .ok out) :
    (∃ amount, addFlowIn st ctx.now amount = .ok out.st) ∨
    (∃ amount, addFlowOut st ctx.now amount = .ok out.st) ∨
    (∃ l, func = "setFlowLimit" ∧ intersects (st.roles ctx.caller) FLOW_LIMITER = true ∧
      out.st = { st with flowLimit := l }) ∨
    SameRest st out.st := by
  cases call_ok h with
  | giveToken _ _ hg => exact .inl ⟨_, (giveToken_eq_ok hg).2.1⟩
  | takeToken _ ht =>
    obtain ⟨_, _, _, amount, _, hf, _⟩ := takeToken_eq_ok ht
    exact .inr (.inl ⟨amount, hf⟩)
  | setFlowLimit hf _ hs =>
    obtain ⟨hr, e, _⟩ := setFlowLimit_eq_ok hs
    exact .inr (.inr (.inl ⟨_, hf, hr, e⟩))
  | mint _ _ hm =>
    rw [(mint_eq_ok hm).2.2.2.1]
    exact .inr (.inr (.inr (SameRest.rfl' st)))
  | burn _ hb =>
    rw [(burn_eq_ok hb).2.2.2.1]
    exact .inr (.inr (.inr (SameRest.rfl' st)))
  | deploy _ hd =>
    rw [(deployInterchainToken_eq_ok hd).2.2.2.2.1]
    exact .inr (.inr (.inr (.of_roles st _ _)))
  | role hr _ hro =>
    obtain ⟨evs, hre, _⟩ := roleOut_eq_ok hro
    exact .inr (.inr (.inr (roleStep_same hr hre)))
  | view _ hv =>
    rw [(view_eq_ok hv).1]
    exact .inr (.inr (.inr (SameRest.rfl' st)))

/-- **No endpoint touches what a manager is bound to** (service, kind, token id, token identifier). -/
theorem call_identity {st : State} {ctx : Ctx} {func : String} {args : List Bytes} {out : Out}
    (h : call st ctx func args = .ok out) :
    out.st.service = st.service ∧ out.st.implType = st.implType ∧ out.st.tokenId = st.tokenId ∧
    out.st.tokenIdentifier = st.tokenIdentifier := by
  rcases call_state h with ⟨_, hf⟩ | ⟨_, hf⟩ | ⟨l, _, _, e⟩ | hs
  · obtain ⟨f, e, _⟩ := addFlowIn_eq_ok hf
    rw [e]
    exact ⟨rfl, rfl, rfl, rfl⟩
  · obtain ⟨f, e, _⟩ := addFlowOut_eq_ok hf
    rw [e]
    exact ⟨rfl, rfl, rfl, rfl⟩
  · rw [e]
    exact ⟨rfl, rfl, rfl, rfl⟩
  · exact ⟨hs.service, hs.implType, hs.tokenId, hs.tokenIdentifier⟩

/-! ### the dispatcher at the endpoints the token service calls

  In each proof the dispatcher's two matches on the endpoint name (`call.match_7`: the three payable endpoints;
  `call.match_5`: all the others) are unfolded into their `if` chains, so that the simproc `String.reduceEq`
  decides each comparison of names; `simp`'s own reduction of a match on a string literal unfolds
  `String.decEq` instead, at about five times the work per name. -/

section
variable {st : State} {ctx : Ctx}

theorem call_giveToken (hp : notPayable ctx = true) (d a : Bytes) :
    call st ctx "giveToken" [d, a] =
      match topFixed 32 d with
      | some d => giveToken st ctx d (topBig a)
      | none => .error .args := by
  unfold call call.match_7 call.match_5
  simp only [String.reduceEq, ↓reduceDIte, hp, Bool.not_true, Bool.false_eq_true, if_false]
  rfl

theorem call_takeToken : call st ctx "takeToken" [] = takeToken st ctx := by
  unfold call
  simp only

theorem call_tokenIdentifier (hp : notPayable ctx = true) :
    call st ctx "tokenIdentifier" [] = view st [st.tokenIdentifier] := by
  unfold call call.match_7 call.match_5
  simp only [String.reduceEq, ↓reduceDIte, hp, Bool.not_true, Bool.false_eq_true, if_false]

theorem call_isMinter (hp : notPayable ctx = true) (a : Bytes) :
    call st ctx "isMinter" [a] =
      match topFixed 32 a with
      | some a => view st [encBool (intersects (st.roles a) MINTER)]
      | none => .error .args := by
  unfold call call.match_7 call.match_5
  simp only [String.reduceEq, ↓reduceDIte, hp, Bool.not_true, Bool.false_eq_true, if_false]
  rfl

end

theorem call_mint {st : State} {s tm : Bytes} {now : Nat} {a amt : Bytes} {out : Out}
    (h : call st ⟨s, tm, now, 0, []⟩ "mint" [a, amt] = .ok out) :
    mint st ⟨s, tm, now, 0, []⟩ a (topBig amt) = .ok out := by
  unfold call call.match_7 call.match_5 at h
  simp only [String.reduceEq, ↓reduceDIte] at h
  exact topFixed_match h

/-- four endpoints in one statement, so that the dispatcher is unfolded once for all of them -/
theorem call_role {st : State} {s tm : Bytes} {now : Nat} {f : String} {a : Bytes} {out : Out}
    (h : call st ⟨s, tm, now, 0, []⟩ f [a] = .ok out) :
    (f = "transferMintership" → roleOut (transferRole st s a MINTER) = .ok out) ∧
    (f = "removeFlowLimiter" → roleOut (.ok (removeRole st a FLOW_LIMITER)) = .ok out) ∧
    (f = "addFlowLimiter" → roleOut (.ok (addRole st a FLOW_LIMITER)) = .ok out) ∧
    (f = "transferOperatorship" → roleOut (transferRole st s a OPERATOR) = .ok out) := by
  unfold call call.match_7 call.match_5 at h
  refine ⟨?_, ?_, ?_, ?_⟩ <;>
  · rintro rfl
    simp only [String.reduceEq, ↓reduceDIte] at h
    exact (ite_else_error_eq_ok.mp (topFixed_match h)).2

end Axelar.TokenManager
