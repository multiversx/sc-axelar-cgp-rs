/-
  All-histories ledger of the governance refund credits (C16).  The history is concrete: `GOp.call` is the model's
  endpoint dispatcher, `GOp.command` is `execute` against an arbitrary gateway state, `GOp.cb` is the promise callback
  of a dispatch in flight (one per dispatch, any order, any outcome).  What was attached at dispatch time and what
  withdrawals sent out is ghost state, recorded next to the contract state and never read by it.  For every
  (user, token, nonce):  outstanding credit + everything withdrawn = everything attached to dispatches that failed.
-/
import Axelar.Props.C16
namespace Axelar.Governance
open Axelar Codec Axelar.Props.C16

inductive GOp
  /-- any endpoint other than `execute` -/
  | call (ctx : Ctx) (func : String) (args : List Bytes)
  /-- `execute` (a governance command) against the gateway state of that moment -/
  | command (gw : Gateway.State) (ctx : Ctx) (chain id src payload : Bytes)
  /-- the callback of a dispatch in flight, with the outcome the schedule dictates -/
  | cb (d : Dispatch) (ok : Bool) (rs : List Bytes)

structure Led where
  st : State
  /-- dispatches registered and not yet called back, each with the caller of the dispatching transaction
      and the payments attached to it (`call_value().any_payment()` of that transaction) -/
  inflight : List (Dispatch × Bytes × Payments) := []
  /-- ghost: per key, everything attached (at dispatch time) to dispatches whose call failed -/
  failedAttached : RefundKey → Nat := fun _ => 0
  /-- ghost: per key, everything sent out by withdrawals -/
  withdrawn : RefundKey → Nat := fun _ => 0

def sentTotal (l : List GasService.Send) : Nat := (l.map (·.amount)).sum

/-- the (user, token, nonce) a successful call withdraws for, if it is a withdrawal -/
def withdrawKey (ctx : Ctx) (func : String) (args : List Bytes) : Option RefundKey :=
  if func = "withdrawRefundToken" then
    match args with
    | [t] => match top decToken t with
      | some (tok, nonce) => some (ctx.caller, tok, nonce)
      | none => none
    | _ => none
  else none

def stepLed (C : Crypto) (h : Led) : GOp → Led
  | .call ctx func args =>
    match call C h.st ctx func args with
    | .error _ => h
    | .ok out =>
      { h with st := out.st,
               inflight := (match out.dispatch with | some d => [(d, ctx.caller, anyPayment ctx)] | none => []) ++ h.inflight,
               withdrawn := match withdrawKey ctx func args with
                 | some k => upd h.withdrawn k (h.withdrawn k + sentTotal out.sends)
                 | none => h.withdrawn }
  | .command gw ctx chain id src payload =>
    match execute C h.st gw ctx chain id src payload with
    | .error _ => h
    | .ok (st', _, _, _) => { h with st := st' }
  | .cb d ok rs =>
    match h.inflight.find? (fun p => p.1 == d) with
    | none => h
    | some (d', who, paid) =>
      { h with st := (callback h.st d' ok rs).st,
               inflight := h.inflight.erase (d', who, paid),
               failedAttached := fun key =>
                 h.failedAttached key +
                   (if !ok ∧ key.1 = who then attached paid key.2.1 key.2.2 else 0) }

def runLed (C : Crypto) (h : Led) (ops : List GOp) : Led := ops.foldl (stepLed C) h

/-- the ledger equation and the fact that every dispatch in flight remembers exactly what its caller attached -/
structure LedInv (h : Led) : Prop where
  eq : ∀ key, h.st.refunds key + h.withdrawn key = h.failedAttached key
  mem : ∀ p ∈ h.inflight, p.1.payments = p.2.2 ∧ p.1.caller = p.2.1

theorem call_dispatch {C : Crypto} {st : State} {ctx : Ctx} {func : String} {args : List Bytes} {out : Out}
    {d : Dispatch} (h : call C st ctx func args = .ok out) (hd : out.dispatch = some d) :
    d.payments = anyPayment ctx ∧ d.caller = ctx.caller := by
  cases call_ok h with
  | timeLock _ he => exact dispatch_remembers_payments C st ctx _ _ _ out d (.inl he) hd
  | operator _ he => exact dispatch_remembers_payments C st ctx _ _ _ out d (.inr he) hd
  | _ =>
    subst out
    cases hd

theorem sentTotal_withdraw (st : State) (ctx : Ctx) (tok : Bytes) (nonce : Nat) :
    sentTotal (withdrawRefundToken st ctx tok nonce).sends = st.refunds (ctx.caller, tok, nonce) := by
  by_cases hz : st.refunds (ctx.caller, tok, nonce) = 0 <;> simp [withdrawRefundToken, sentTotal, hz]

/-- the credit a successful call takes away is exactly what it sends out, at the key it withdraws for -/
theorem call_refunds {C : Crypto} {st : State} {ctx : Ctx} {func : String} {args : List Bytes} {out : Out}
    (h : call C st ctx func args = .ok out) (key : RefundKey) :
    out.st.refunds key + (match withdrawKey ctx func args with
      | some k => if key = k then sentTotal out.sends else 0
      | none => 0) = st.refunds key := by
  cases call_ok h with
  | withdrawRefundToken hf ha hdec ho =>
    subst hf ha ho
    simp only [withdrawKey, if_true, hdec, sentTotal_withdraw]
    show upd st.refunds _ 0 key + _ = _
    unfold upd
    split
    · subst key
      exact Nat.zero_add _
    · rfl
  | view ho =>
    subst ho
    cases withdrawKey ctx func args with
    | none => rfl
    | some k => exact Nat.add_eq_left.mpr (ite_self 0)  -- a view sends nothing
  | timeLock hf | operator hf | withdraw hf | transferOperatorship hf =>
    -- the other endpoints are not `withdrawRefundToken`: they withdraw for no key and leave the credits alone
    have hne : func ≠ "withdrawRefundToken" := by simp [hf]
    rw [show withdrawKey ctx func args = none from if_neg hne, credits_untouched_elsewhere C st ctx _ _ _ h hne]
    rfl

theorem init_ledInv {st : State} (h0 : ∀ k, st.refunds k = 0) : LedInv { st := st } where
  eq := h0
  mem _ h := nomatch h

theorem step_ledInv {C : Crypto} {h : Led} (op : GOp) (hi : LedInv h) : LedInv (stepLed C h op) := by
  cases op with
  | call ctx func args =>
    rw [stepLed]
    cases hc : call C h.st ctx func args with
    | error e => exact hi
    | ok out =>
      refine ⟨fun key => ?_, List.forall_mem_append.mpr ⟨?_, hi.mem⟩⟩
      · have hr := call_refunds hc key
        have := hi.eq key
        generalize withdrawKey ctx func args = wk at hr ⊢
        cases wk with
        | none =>
          rwa [← hr] at this
        | some k =>
          simp only [upd_add] at hr ⊢
          omega
      · cases hd : out.dispatch with
        | none => exact fun _ hp => nomatch hp
        | some d => exact List.forall_mem_singleton.mpr (call_dispatch hc hd)
  | command gw ctx chain id src payload =>
    rw [stepLed]
    rcases hc : execute C h.st gw ctx chain id src payload with e | ⟨st', gw', e1, e2⟩
    · exact hi
    · refine ⟨fun key => ?_, hi.mem⟩
      rw [execute_refunds hc]
      exact hi.eq key
  | cb d ok rs =>
    rw [stepLed]
    cases hf : h.inflight.find? (fun p => p.1 == d) with
    | none => exact hi
    | some p =>
      obtain ⟨d', cx, paid⟩ := p
      obtain ⟨hp1, hp2⟩ := hi.mem _ (List.mem_of_find?_eq_some hf)
      simp only at hp1 hp2
      refine ⟨fun key => ?_, fun p hp => hi.mem p (List.mem_of_mem_erase hp)⟩
      obtain ⟨c1, c2⟩ := callback_credits h.st d' rs key
      have he := hi.eq key
      cases ok with
      | true =>
        simp only [c1, Bool.not_true, Bool.false_eq_true, false_and, if_false]
        exact he
      | false =>
        simp only [c2, hp1, hp2, Bool.not_false, true_and]
        rw [← he, Nat.add_right_comm]

theorem run_ledInv (C : Crypto) (ops : List GOp) {h : Led} (hi : LedInv h) : LedInv (runLed C h ops) :=
  List.foldlRecOn ops (stepLed C) hi fun _ hi op _ => step_ledInv op hi

end Axelar.Governance
