/-
  The gateway's entry points and storage mappers as regenerated from the sources on every run
  (`Generated/Surface.lean`), against the surface the model implements (see SurfaceDefs.lean); and the link
  back from the model's dispatcher: a call that changes the state is an entry point of that table.
-/
import Axelar.Proofs.SurfaceLemmas
import Axelar.Proofs.GatewayProofs
namespace Axelar.Surface
open Axelar Generated

def gatewayExpected : List (String × String × Bool × String × Nat) := [
  ("endpoint", "approveMessages", false, "", 2),
  ("endpoint", "callContract", false, "", 3),
  ("endpoint", "rotateSigners", false, "", 2),
  ("endpoint", "transferOperatorship", false, "", 1),
  ("endpoint", "validateMessage", false, "", 4),
  ("init", "init", false, "", 5),
  ("upgrade", "upgrade", false, "", 2)]

theorem gateway_surface : gatewaySurface.map sig = gatewayExpected := by rfl

theorem gateway_storage_no_alias : noAlias gatewayStorage = true ∧ keysNodup gatewayStorage = true :=
  no_alias_of_pairwise (by decide +kernel)

/-- the storage mappers of the contract are exactly the fields the model's state has (a mapper the model does not know
    is state the theorems do not cover; the harness emulates its absence on contracts deployed by earlier code: `wipe`) -/
theorem gateway_storage_keys : gatewayStorage.map (·.key) = ["domain_separator", "epoch", "epoch_by_signer_hash", "last_rotation_timestamp", "messages", "minimum_rotation_delay", "operator", "previous_signers_retention", "signer_hash_by_epoch"] := by rfl

open Gateway

/-- **The model changes gateway storage only through an entry point of the regenerated surface**: every
    call of the model's dispatcher that changes the state is one of the exported endpoints (or the
    protocol's `upgradeContract`, which runs the exported `upgrade`). -/
theorem gateway_state_changes_only_through_surface (C : Crypto) (st st' : State) (ctx : Ctx) (func : String)
    (args rs : List Bytes) (evs : List Ev) (h : call C st ctx func args = .ok (st', rs, evs)) (hne : st' ≠ st) :
    (∃ e ∈ Generated.gatewaySurface, e.kind = "endpoint" ∧ e.name = func) ∨
    (func = "upgradeContract" ∧ ∃ e ∈ Generated.gatewaySurface, e.kind = "upgrade") := by
  rcases call_cases C st ctx func args st' rs evs h with
    ⟨_, _, rfl, _⟩ | ⟨_, _, rfl, _⟩ | ⟨_, _, _, _, _, rfl, _⟩ | ⟨_, rfl, _⟩ | ⟨_, _, _, _, _, hf, _⟩ | rfl
  iterate 4 exact .inl (by decide)
  · exact .inr ⟨hf, by decide⟩
  · exact absurd rfl hne

end Axelar.Surface
