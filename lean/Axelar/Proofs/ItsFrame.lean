/-
  Frame reasoning for the token service.  `Frame R m`: every successful run of the computation
  `m` moves the world within the relation `R`.  For a relation that is transitive and contains
  every step outside the service's storage (`FrameRel`), and the few writes ordinary flows make
  to that storage (`Writes`), every flow of the service is a frame — proved once per flow, for
  all such relations.  The relations in use: `World.Ext` for reading a single flow (`Frame.h (R :=
  World.Ext) h`: its storage untouched, gateway entries along their life cycle), `onIts Core`
  (pause), and the four relations of the all-schedules theorems in Proofs/ItsHistory.lean.
  (`World.Ext` itself admits no write to the service's storage, so it is no `Writes` relation.)
-/
import Axelar.Proofs.ItsMonad
namespace Axelar.ItsW
open Axelar Codec Its World

/-- every successful run of `m` moves the world within `R` -/
class Frame (R : World → World → Prop) {α : Type} (m : M α) : Prop where
  h : ∀ {t a t'}, m t = some (a, t') → R t.w t'.w

/-- `R` is transitive and contains every step that leaves the service's storage alone and moves
    gateway entries along their life cycle (so it is reflexive, too) -/
class FrameRel (R : World → World → Prop) : Prop where
  trans : ∀ {a b c}, R a b → R b c → R a c
  ext : ∀ {w w'}, Ext w w' → R w w'

theorem FrameRel.refl {R : World → World → Prop} [FrameRel R] (w : World) : R w w := ext (.refl w)

instance : FrameRel Ext := ⟨Ext.trans, id⟩

/-- the writes to the service's storage that ordinary flows make: binding an unbound token id to
    its manager, setting a transfer-with-data lock, clearing a minter approval -/
inductive Write : Its.State → Its.State → Prop
  | bind (s : Its.State) (id addr : Bytes) : s.tmAddress id = [] →
      Write s { s with tmAddress := upd s.tmAddress id addr }
  | lock (s : Its.State) (k : Bytes × Bytes) : Write s { s with lock := upd s.lock k true }
  | unapprove (s : Its.State) (key : Bytes) :
      Write s { s with approvedMinters := upd s.approvedMinters key [] }

/-- `R` admits the three writes of `Write` -/
class Writes (R : World → World → Prop) : Prop where
  write : ∀ {w s'}, Write w.its s' → R w { w with its := s' }

/-- `Frame`, for runs that start with the service's storage equal to `s`: what `getI` returned is
    still what is stored when a later `setI { st with … }` writes it back -/
structure FrameAt (s : Its.State) (R : World → World → Prop) {α : Type} (m : M α) : Prop where
  h : ∀ {t a t'}, t.w.its = s → m t = some (a, t') → R t.w t'.w

theorem Frame.at {R : World → World → Prop} {α : Type} {m : M α} [hm : Frame R m] (s : Its.State) : FrameAt s R m := ⟨fun _ h => hm.h h⟩

theorem frame_getI_bind {R : World → World → Prop} {β : Type} {f : Its.State → M β} (h : ∀ s, FrameAt s R (f s)) : Frame R (getI >>= f) :=
  ⟨fun hr => (h _).h rfl (by simpa only [run_bind, run_getI] using hr)⟩

/-- both at once: one walk through the continuation serves two relations (`call_sound`) -/
theorem frame_getI_bind₂ {R Q : World → World → Prop} {β : Type} {f : Its.State → M β}
    (h : ∀ s, FrameAt s R (f s) ∧ FrameAt s Q (f s)) : Frame R (getI >>= f) ∧ Frame Q (getI >>= f) :=
  ⟨frame_getI_bind fun s => (h s).1, frame_getI_bind fun s => (h s).2⟩

theorem FrameAt.setI {R : World → World → Prop} {s s' : Its.State} (h : ∀ {w : World}, w.its = s → R w { w with its := s' }) : FrameAt s R (setI s') :=
  ⟨fun hs hr => by cases hr; exact h hs⟩

theorem FrameAt.require {R : World → World → Prop} {α : Type} {s : Its.State} {b : Bool} {m : M α} (hm : b = true → FrameAt s R m) :
    FrameAt s R (require b >>= fun _ => m) := by
  refine ⟨fun hs h => ?_⟩
  obtain ⟨_, _, hr, h⟩ := bind_eq_some.mp h
  obtain ⟨hb, rfl⟩ := require_eq_some.mp hr
  exact (hm hb).h hs h

instance frame_ite {R : World → World → Prop} {α : Type} {c : Prop} [Decidable c] {a b : M α}
    [ha : Frame R a] [hb : Frame R b] : Frame R (if c then a else b) := by
  split <;> assumption

section
variable {R : World → World → Prop} [FrameRel R] {α β : Type}
open FrameRel

theorem Frame.of_same {m : M α} (h : ∀ {t a t'}, m t = some (a, t') → t'.w = t.w) : Frame R m :=
  ⟨fun hr => h hr ▸ refl _⟩

instance frame_pure (a : α) : Frame R (pure a : M α) := .of_same fun h => by cases h; rfl
instance frame_fail : Frame R (fail : M α) := ⟨fun h => by cases h⟩
instance frame_require (b : Bool) : Frame R (require b) := .of_same fun h => by rw [← (require_eq_some.mp h).2]
instance frame_getI : Frame R getI := .of_same fun h => by cases h; rfl
instance frame_get : Frame R (get : M Tx) := .of_same fun h => by cases h; rfl
instance frame_emit (cx : ICtx) (n : String) (a b : List Bytes) : Frame R (emit cx n a b) :=
  .of_same fun h => by cases h; rfl

instance frame_subcall (C : Crypto) (cx : ICtx) (dst : Bytes) (f : String) (e : Nat)
    (es : List (Bytes × Nat × Nat)) (args : List Bytes) : Frame R (subcall C cx dst f e es args) :=
  ⟨fun h => ext (subcall_ext h)⟩

instance frame_addPend (cx : ICtx) (dst : Bytes) (func : String) (egld : Nat) (esdt : List (String × Nat × Nat))
    (args : List Bytes) (kind : PendKind) : Frame R (addPend cx dst func egld esdt args kind) :=
  ⟨fun h => by cases h; exact ext (.of_eq rfl rfl)⟩

instance frame_refundGas (cx : ICtx) (caller : Bytes) (g : Nat) : Frame R (refundGas cx caller g) := by
  refine ⟨fun h => ?_⟩
  unfold refundGas at h
  split at h
  · cases h; exact refl _
  · split at h <;> cases h
    rename_i hs
    exact ext (send_bal hs).ext

instance frame_bind {m : M α} {f : α → M β} [hm : Frame R m] [hf : ∀ a, Frame R (f a)] : Frame R (m >>= f) :=
  ⟨fun h => by obtain ⟨a, t1, h1, h2⟩ := bind_eq_some.mp h; exact FrameRel.trans (hm.h h1) ((hf a).h h2)⟩

/-- `frame_bind` for `apply`: instance search cannot look into a `match` or `if` in the continuation -/
theorem frame_bind' {m : M α} {f : α → M β} (hm : Frame R m) (hf : ∀ a, Frame R (f a)) : Frame R (m >>= f) :=
  frame_bind

theorem FrameAt.bind {s : Its.State} {m : M α} {f : α → M β} (hm : FrameAt s R m) (hf : ∀ a, Frame R (f a)) :
    FrameAt s R (m >>= f) :=
  ⟨fun hs h => by obtain ⟨a, t1, h1, h2⟩ := bind_eq_some.mp h; exact FrameRel.trans (hm.h hs h1) ((hf a).h h2)⟩

/-- structural descent through a flow: binds, pattern matches, conditionals and `let`s; the leaves
    (primitives and flows proved earlier) by instance -/
macro "frame" : tactic => `(tactic| repeat' (first
  | intro _ | exact inferInstance | apply frame_bind' | split | dsimp only))

/-! ### flows that need `FrameRel` only: they do not write the service's storage -/

variable (C : Crypto) (cx : ICtx)

instance frame_requireNotPaused : Frame R requireNotPaused := by unfold requireNotPaused; frame
instance frame_ret (b : Bytes) : Frame R (ret b) := by unfold ret; frame
instance frame_gatewayValidate (a b c d : Bytes) : Frame R (gatewayValidate C cx a b c d) := by
  unfold gatewayValidate; frame
instance frame_gatewayIsApproved (a b c d : Bytes) : Frame R (gatewayIsApproved C cx a b c d) := by
  unfold gatewayIsApproved; frame
instance frame_callContract (a b c : Bytes) (g : Its.Tok) (n : Nat) : Frame R (callContract C cx a b c g n) := by
  unfold callContract; frame
instance frame_routeMessage (a b : Bytes) (g : Its.Tok) (n : Nat) : Frame R (routeMessage C cx a b g n) := by
  unfold routeMessage; frame
instance frame_deployedTokenManager (tid : Bytes) : Frame R (deployedTokenManager tid) := by
  unfold deployedTokenManager; frame
instance frame_tmTakeToken (tid : Bytes) (tok : Its.Tok) (n : Nat) : Frame R (tmTakeToken C cx tid tok n) := by
  unfold tmTakeToken; frame
instance frame_tmGiveToken (tid dest : Bytes) (n : Nat) : Frame R (tmGiveToken C cx tid dest n) := by
  unfold tmGiveToken; frame
instance frame_tmDeployInterchainToken (tid : Bytes) (m : Option Bytes) (a b : Bytes) (d : Nat) :
    Frame R (tmDeployInterchainToken C cx tid m a b d) := by
  unfold tmDeployInterchainToken; frame
instance frame_registeredTokenIdentifier (tid : Bytes) : Frame R (registeredTokenIdentifier C cx tid) := by
  unfold registeredTokenIdentifier; frame
instance frame_transmitInterchainTransfer (a b c d : Bytes) (tg : TransferAndGas) (e : Bytes) :
    Frame R (transmitInterchainTransfer C cx a b c d tg e) := by
  unfold transmitInterchainTransfer; frame
instance frame_deployRemoteBase (a b c : Bytes) (d : Nat) (e f : Bytes) (g : Nat) :
    Frame R (deployRemoteBase C cx a b c d e f g) := by
  unfold deployRemoteBase; frame
instance frame_linkTokenRaw (a b c : Bytes) (ty : Nat) (lp : Bytes) (g : Nat) :
    Frame R (linkTokenRaw C cx a b c ty lp g) := by
  unfold linkTokenRaw
  -- the first six binds (the pause check, four guards, the read of the chain name) by hand: `frame` would
  -- search the whole flow for an instance before each of them
  iterate 6 refine frame_bind' inferInstance fun _ => ?_
  frame
instance frame_interchainTransfer (a b c : Bytes) (d : Option Bytes) (g : Nat) :
    Frame R (interchainTransfer C cx a b c d g) := by
  unfold interchainTransfer; frame
instance frame_registerTokenMetadataRaw (a : Bytes) (d g : Nat) : Frame R (registerTokenMetadataRaw C cx a d g) := by
  unfold registerTokenMetadataRaw; frame
instance frame_checkTokenMinter (a b : Bytes) : Frame R (checkTokenMinter C cx a b) := by
  unfold checkTokenMinter; frame
instance frame_registerTokenMetadataCallback (a : Bytes) (g : Nat) (c : Bytes) (ok : Bool) (vals : List Bytes) :
    Frame R (registerTokenMetadataCallback C cx a g c ok vals) := by
  unfold registerTokenMetadataCallback; frame
instance frame_setFlowLimitsLoop (l : List (Bytes × Bytes)) : Frame R (setFlowLimitsLoop C cx l) := by
  induction l with
  | nil => exact frame_pure _
  | cons x l ih => unfold setFlowLimitsLoop; frame
instance frame_retUnlessAsync (m : M Bytes) [Frame R m] : Frame R (retUnlessAsync m) := by
  unfold retUnlessAsync; frame
instance frame_unit (m : M Unit) [Frame R m] : Frame R (ItsW.unit m) := by
  unfold ItsW.unit; frame

end

/-! ### flows that need `Writes` too: they write the service's storage, or contain a flow that does -/

/-- `deploy_token_manager_raw`, exactly: refused when the id is bound; otherwise binds the id to
    a fresh non-empty address where a manager initialised with the requested arguments now lives;
    nothing else in the service's storage changes -/
theorem deployTokenManagerRaw_eq_some {C : Crypto} {cx : ICtx} {tokenId : Bytes} {ty : Nat} {token : Option Bytes}
    {opRaw : Bytes} {t t' : Tx} {addr : Bytes}
    (h : deployTokenManagerRaw C cx tokenId ty token opRaw t = some (addr, t')) :
    t.w.its.tmAddress tokenId = [] ∧ addr ≠ [] ∧
    t'.w.its = { t.w.its with tmAddress := upd t.w.its.tmAddress tokenId addr } ∧ t'.w.gw = t.w.gw ∧
    t.w.kind addr = none ∧ t'.w.kind addr = some .tokenManager ∧
    ∃ operator tmst evs, (opRaw = [] ∧ operator = none ∨ opRaw.length = 32 ∧ operator = some opRaw) ∧
      TokenManager.init cx.self ty tokenId operator token = .ok (tmst, evs) ∧ t'.w.tms addr = tmst := by
  simp only [deployTokenManagerRaw, bind_eq_some, run_getI, run_getW, require_eq_some, Option.some.injEq,
    Prod.mk.injEq] at h
  obtain ⟨_, _, ⟨rfl, rfl⟩, _, _, ⟨hid, rfl⟩, operator, t0, hop, _, _, ⟨rfl, rfl⟩, _, _, ⟨ha, rfl⟩, _, _, ⟨hk, rfl⟩, h⟩ := h
  obtain ⟨hop', rfl⟩ : (opRaw = [] ∧ operator = none ∨ opRaw.length = 32 ∧ operator = some opRaw) ∧ t0 = t := by
    split at hop
    next he => cases hop; exact ⟨Or.inl ⟨List.isEmpty_iff.mp he, rfl⟩, rfl⟩
    · split at hop <;> cases hop
      exact ⟨Or.inr ⟨by assumption, rfl⟩, rfl⟩
  cases hi : TokenManager.init cx.self ty tokenId operator token with
  | error e => simp [hi] at h
  | ok v =>
    obtain ⟨tmst, tmevs⟩ := v
    rw [hi] at h
    cases h
    exact ⟨by simpa using hid, by simpa using ha, rfl, rfl, by simpa using hk, by simp [upd],
      operator, tmst, tmevs, hop', hi, by simp [upd]⟩

section
variable {R : World → World → Prop} [FrameRel R] [Writes R] (C : Crypto) (cx : ICtx)
open FrameRel Writes

instance frame_deployTokenManagerRaw (tokenId : Bytes) (ty : Nat) (token : Option Bytes) (opRaw : Bytes) :
    Frame R (deployTokenManagerRaw C cx tokenId ty token opRaw) := by
  refine ⟨fun {t addr t'} h => ?_⟩
  obtain ⟨h1, _, h3, h4, _⟩ := deployTokenManagerRaw_eq_some h
  -- the new manager first (outside the service's storage), then the binding
  have : R t.w _ := FrameRel.trans (ext (.of_eq rfl h4 : Ext t.w { t'.w with its := t.w.its }))
    (write (.bind t.w.its tokenId addr h1))
  rwa [← h3] at this

instance frame_executeWithToken (a b c d e f g h i : Bytes) (n : Nat) :
    Frame R (executeWithToken C cx a b c d e f g h i n) := by
  unfold executeWithToken
  iterate 3 refine frame_bind' inferInstance fun _ => ?_
  -- the lock is set in the storage just read; the pending call is registered after it
  exact frame_getI_bind fun s => .require fun _ => (FrameAt.setI fun e => e ▸ write (.lock _ _)).bind fun _ => inferInstance

instance frame_processInterchainTransfer (a b c d e f : Bytes) :
    Frame R (processInterchainTransfer C cx a b c d e f) := by
  unfold processInterchainTransfer; frame
instance frame_processLinkToken (a : Bytes) : Frame R (processLinkToken C cx a) := by
  unfold processLinkToken; frame
instance frame_processDeployInterchainToken (a b c d e : Bytes) :
    Frame R (processDeployInterchainToken C cx a b c d e) := by
  unfold processDeployInterchainToken; frame
instance frame_execute (a b c d : Bytes) : Frame R (execute C cx a b c d) := by
  unfold execute; frame
instance frame_deployInterchainTokenRaw (a b c d : Bytes) (n : Nat) (m : Bytes) (e : Nat) :
    Frame R (deployInterchainTokenRaw C cx a b c d n m e) := by
  unfold deployInterchainTokenRaw; frame
instance frame_registerCustomTokenRaw (a b : Bytes) (ty : Nat) (lp : Bytes) :
    Frame R (registerCustomTokenRaw C cx a b ty lp) := by
  unfold registerCustomTokenRaw; frame
instance frame_deployRemoteInterchainTokenRaw (a b c d : Bytes) :
    Frame R (deployRemoteInterchainTokenRaw C cx a b c d) := by
  unfold deployRemoteInterchainTokenRaw; frame
instance frame_factoryMintStep (a b : Bytes) (n : Nat) : Frame R (factoryMintStep C cx a b n) := by
  unfold factoryMintStep; frame
instance frame_factoryDeployInterchainToken (a b c : Bytes) (d s : Nat) (m : Bytes) :
    Frame R (factoryDeployInterchainToken C cx a b c d s m) := by
  unfold factoryDeployInterchainToken
  iterate 2 refine frame_bind' inferInstance fun _ => ?_
  frame
instance frame_deployRemoteTokenCallback (a b c d : Bytes) (g : Nat) (caller : Bytes) (ok : Bool)
    (vals : List Bytes) : Frame R (deployRemoteTokenCallback C cx a b c d g caller ok vals) := by
  unfold deployRemoteTokenCallback; frame

/-- a successful use: the stored approval is set and is the hash of the requested destination
    minter; the new storage is the old one with that entry cleared -/
theorem useDeployApproval_eq_some {C : Crypto} {st st' : Its.State} {minter tokenId chain dm : Bytes} :
    useDeployApproval C st minter tokenId chain dm = some st' ↔
    (st.approvedMinters (deployApprovalKey C minter tokenId chain) ≠ [] ∧
      st.approvedMinters (deployApprovalKey C minter tokenId chain) = C.H dm) ∧
    { st with approvedMinters := upd st.approvedMinters (deployApprovalKey C minter tokenId chain) [] } = st' := by
  simp only [useDeployApproval, Option.ite_none_right_eq_some, Option.some.injEq, Bool.and_eq_true, Bool.not_eq_true',
    List.isEmpty_eq_false_iff, beq_iff_eq, ne_eq]

/-- the first part of `deployRemoteInterchainTokenWithMinter`, before the raw remote deployment:
    the minter check through the manager's view and the use of the approval; returns the
    destination minter that goes into the message.  (A proof-side name for a part of the model's
    text — `deployRemoteWithMinter_eq : … := rfl` — so that this part, which writes the approvals
    table, has a head symbol that instance search and the inversion below can speak of.) -/
def minterCheck (C : Crypto) (cx : ICtx) (tokenId minter destChain : Bytes) (destMinter : Option Bytes) : M Bytes :=
  if !Gateway.isZeroAddr minter then do
    checkTokenMinter C cx tokenId minter
    match destMinter with
    | some dm =>
      match useDeployApproval C (← getI) minter tokenId destChain dm with
      | none => fail
      | some st' => setI st'; pure dm
    | none => pure minter
  else do
    require destMinter.isNone
    pure []

theorem deployRemoteWithMinter_eq (salt minter destChain : Bytes) (destMinter : Option Bytes) :
    deployRemoteWithMinter C cx salt minter destChain destMinter = (do
      let st ← getI
      let dm ← minterCheck C cx (tokenIdRaw C (interchainTokenDeploySalt C st cx.caller salt)) minter destChain destMinter
      deployRemoteInterchainTokenRaw C cx (interchainTokenDeploySalt C st cx.caller salt) destChain dm cx.caller) :=
  rfl

theorem minterCheck_eq_some {C : Crypto} {cx : ICtx} {tid minter chain dm : Bytes} {dmOpt : Option Bytes} {t t1 : Tx}
    (h : minterCheck C cx tid minter chain dmOpt t = some (dm, t1)) :
    (Gateway.isZeroAddr minter = true ∧ dmOpt = none ∧ dm = [] ∧ t1 = t) ∨
    (Gateway.isZeroAddr minter = false ∧ ∃ t0, checkTokenMinter C cx tid minter t = some ((), t0) ∧
      ((dmOpt = none ∧ dm = minter ∧ t1 = t0) ∨
       (dmOpt = some dm ∧ ∃ st', useDeployApproval C t0.w.its minter tid chain dm = some st' ∧
          t1 = { t0 with w := { t0.w with its := st' } }))) := by
  unfold minterCheck at h
  cases hz : Gateway.isZeroAddr minter with
  | true =>
    rw [hz] at h
    obtain ⟨hn, h⟩ := require_bind.mp h
    cases h
    exact .inl ⟨rfl, Option.isNone_iff_eq_none.mp hn, rfl, rfl⟩
  | false =>
    rw [hz] at h
    obtain ⟨_, t0, hc, h⟩ := bind_eq_some.mp h
    refine .inr ⟨rfl, t0, hc, ?_⟩
    cases dmOpt with
    | none =>
      cases h
      exact .inl ⟨rfl, rfl, rfl⟩
    | some d =>
      simp only [getI_bind] at h
      generalize hu : useDeployApproval C t0.w.its minter tid chain d = u at h
      obtain _ | st' := u
      · cases h
      · cases h
        exact .inr ⟨rfl, st', hu, rfl⟩

instance frame_minterCheck (a b c : Bytes) (dm : Option Bytes) : Frame R (minterCheck C cx a b c dm) := by
  refine ⟨fun h => ?_⟩
  obtain ⟨-, -, -, rfl⟩ | ⟨-, t0, hc, ⟨-, -, rfl⟩ | ⟨-, st', hu, rfl⟩⟩ := minterCheck_eq_some h
  · exact refl _
  · exact Frame.h hc
  · exact FrameRel.trans (Frame.h hc) (write ((useDeployApproval_eq_some.mp hu).2 ▸ .unapprove _ _))

instance frame_deployRemoteWithMinter (a b c : Bytes) (dm : Option Bytes) :
    Frame R (deployRemoteWithMinter C cx a b c dm) := by
  rw [deployRemoteWithMinter_eq]; frame

instance frame_revokeDeployRemote (a b c : Bytes) : Frame R (revokeDeployRemote C cx a b c) := by
  refine ⟨fun h => ?_⟩
  cases h
  exact write (.unapprove _ _)

end

/-! ### the flows whose writes not every relation admits -/

/-- `R` admits a minter approval written under a key derived from the address `a` -/
class Approves (C : Crypto) (R : World → World → Prop) (a : Bytes) : Prop where
  approve : ∀ {w tid chain v}, R w { w with its := { w.its with
    approvedMinters := upd w.its.approvedMinters (deployApprovalKey C a tid chain) v } }

/-- `R` admits clearing the transfer-with-data lock `k` -/
class Unlocks (R : World → World → Prop) (k : Bytes × Bytes) : Prop where
  unlock : ∀ {w}, R w { w with its := { w.its with lock := upd w.its.lock k false } }

section
variable {R : World → World → Prop} [FrameRel R] (C : Crypto) (cx : ICtx)

/-- an approval is written under the key derived from the CALLER's address -/
instance frame_approveDeployRemote [Approves C R cx.caller] (a b c d : Bytes) :
    Frame R (approveDeployRemote C cx a b c d) := by
  unfold approveDeployRemote
  iterate 5 refine frame_bind' inferInstance fun _ => ?_
  exact frame_getI_bind fun s => FrameAt.setI fun e => e ▸ Approves.approve

/-- the callback of a delivery clears exactly the lock of its own message -/
instance frame_executeWithTokenCallback (sc mid sa ph tid tok : Bytes) (n : Nat) (ok : Bool) [Unlocks R (sc, mid)] :
    Frame R (executeWithTokenCallback C cx sc mid sa ph tid tok n ok) := by
  unfold executeWithTokenCallback
  exact frame_getI_bind fun s => (FrameAt.setI fun e => e ▸ Unlocks.unlock).bind fun _ => by frame

end

/-! ### what the owner and role endpoints write -/

/-- the arms of the dispatcher that write what `Write` does not cover: the pause flag and the
    trusted table (`ownerOps`), the role tables (`roleOps`) -/
def ownerOps : List String := ["setTrustedAddress", "removeTrustedAddress", "pause", "unpause"]
def roleOps : List String := ["transferOperatorship", "proposeOperatorship", "acceptOperatorship"]

/-- an owner operation: only the pause flag and the trusted-address table may differ -/
structure OwnerStep (s s' : Its.State) : Prop where
  gateway : s'.gateway = s.gateway
  gasService : s'.gasService = s.gasService
  tmImpl : s'.tmImpl = s.tmImpl
  chainName : s'.chainName = s.chainName
  chainNameHash : s'.chainNameHash = s.chainNameHash
  roles : s'.roles = s.roles
  proposed : s'.proposed = s.proposed
  tmAddress : s'.tmAddress = s.tmAddress
  approvedMinters : s'.approvedMinters = s.approvedMinters
  lock : s'.lock = s.lock

/-- a role operation: only the role tables may differ -/
structure RolesStep (s s' : Its.State) : Prop where
  gateway : s'.gateway = s.gateway
  gasService : s'.gasService = s.gasService
  tmImpl : s'.tmImpl = s.tmImpl
  chainName : s'.chainName = s.chainName
  chainNameHash : s'.chainNameHash = s.chainNameHash
  paused : s'.paused = s.paused
  trusted : s'.trusted = s.trusted
  tmAddress : s'.tmAddress = s.tmAddress
  approvedMinters : s'.approvedMinters = s.approvedMinters
  lock : s'.lock = s.lock

theorem roleOp_eq_some {cx : ICtx} {f : TokenManager.State → Except TokenManager.Err (TokenManager.State × List Ev)}
    {t : Tx} {r : List Bytes} {t' : Tx} (h : roleOp cx f t = some (r, t')) :
    ∃ s', RolesStep t.w.its s' ∧ t'.w = { t.w with its := s' } := by
  rw [roleOp, getI_bind] at h
  cases hf : f { roles := t.w.its.roles, proposed := t.w.its.proposed } with
  | error e => rw [hf] at h; cases h
  | ok v =>
    rw [hf] at h
    cases h
    exact ⟨{ t.w.its with roles := v.1.roles, proposed := v.1.proposed },
      ⟨rfl, rfl, rfl, rfl, rfl, rfl, rfl, rfl, rfl, rfl⟩, rfl⟩

/-! ### relations on the service's storage, as relations on worlds -/

def onIts (Ri : Its.State → Its.State → Prop) (w w' : World) : Prop := Ri w.its w'.its

theorem FrameRel.onIts {Ri : Its.State → Its.State → Prop} (refl : ∀ s, Ri s s)
    (trans : ∀ {a b c}, Ri a b → Ri b c → Ri a c) : FrameRel (onIts Ri) :=
  ⟨trans, fun h => by unfold ItsW.onIts; rw [h.its]; exact refl _⟩

/-! ### `Keeps` and `Pres`: `Frame Ext` (its storage half) and `Frame (onIts Core)` as classes of their own -/

/-- `m` never changes the token service's own storage -/
class Keeps {α : Type} (m : M α) : Prop where
  h : ∀ t a t', m t = some (a, t') → t'.w.its = t.w.its

instance Keeps.of_frame {α : Type} {m : M α} [hm : Frame Ext m] : Keeps m := ⟨fun _ _ _ h => (hm.h h).its⟩

instance keeps_getW : Keeps getW := by
  refine ⟨?_⟩; intro t a t' h; simp only [run_getW, Option.some.injEq, Prod.mk.injEq] at h; rw [← h.2]
theorem keeps_ite {α : Type} {c : Prop} [Decidable c] {a b : M α} (ha : Keeps a) (hb : Keeps b) :
    Keeps (if c then a else b) := by
  split <;> assumption

/-- the part of the service's storage that no flow other than the owner / role endpoints touches,
    and the write-once discipline of the token-manager table -/
structure Core (s s' : Its.State) : Prop where
  gateway : s'.gateway = s.gateway
  gasService : s'.gasService = s.gasService
  tmImpl : s'.tmImpl = s.tmImpl
  chainName : s'.chainName = s.chainName
  chainNameHash : s'.chainNameHash = s.chainNameHash
  paused : s'.paused = s.paused
  trusted : s'.trusted = s.trusted
  roles : s'.roles = s.roles
  proposed : s'.proposed = s.proposed
  tm : ∀ id, s.tmAddress id ≠ [] → s'.tmAddress id = s.tmAddress id

/-- the write-once discipline of the token-manager table composes -/
theorem writeOnce_trans {a b c : Its.State} (h1 : ∀ id, a.tmAddress id ≠ [] → b.tmAddress id = a.tmAddress id)
    (h2 : ∀ id, b.tmAddress id ≠ [] → c.tmAddress id = b.tmAddress id) (id : Bytes) (hne : a.tmAddress id ≠ []) :
    c.tmAddress id = a.tmAddress id := by
  rw [h2 id (h1 id hne ▸ hne), h1 id hne]

/-- locks and approvals are outside `Core` -/
theorem Core.of_lock_appr (s : Its.State) (l : Bytes × Bytes → Bool) (a : Bytes → Bytes) :
    Core s { s with lock := l, approvedMinters := a } :=
  ⟨rfl, rfl, rfl, rfl, rfl, rfl, rfl, rfl, rfl, fun _ _ => rfl⟩

theorem Core.refl (s : Its.State) : Core s s := .of_lock_appr s _ _

theorem Core.trans {a b c : Its.State} (h1 : Core a b) (h2 : Core b c) : Core a c where
  gateway := h2.gateway.trans h1.gateway
  gasService := h2.gasService.trans h1.gasService
  tmImpl := h2.tmImpl.trans h1.tmImpl
  chainName := h2.chainName.trans h1.chainName
  chainNameHash := h2.chainNameHash.trans h1.chainNameHash
  paused := h2.paused.trans h1.paused
  trusted := h2.trusted.trans h1.trusted
  roles := h2.roles.trans h1.roles
  proposed := h2.proposed.trans h1.proposed
  tm := writeOnce_trans h1.tm h2.tm

theorem Core.of_write {s s' : Its.State} (h : Write s s') : Core s s' := by
  cases h with
  | bind id addr h0 =>
    refine ⟨rfl, rfl, rfl, rfl, rfl, rfl, rfl, rfl, rfl, fun id' hne => ?_⟩
    have : id' ≠ id := fun e => hne (e ▸ h0)
    simp [upd, this]
  | lock k => exact .of_lock_appr s _ _
  | unapprove key => exact .of_lock_appr s _ _

instance : FrameRel (onIts Core) := .onIts Core.refl Core.trans
instance : Writes (onIts Core) := ⟨Core.of_write⟩
instance (C : Crypto) (a : Bytes) : Approves C (onIts Core) a := ⟨.of_lock_appr _ _ _⟩
instance (k : Bytes × Bytes) : Unlocks (onIts Core) k := ⟨.of_lock_appr _ _ _⟩

/-- every successful run of `m` changes the service's storage only within `Core` -/
class Pres {α : Type} (m : M α) : Prop where
  h : ∀ t a t', m t = some (a, t') → Core t.w.its t'.w.its

instance Pres.of_frame {α : Type} {m : M α} [hm : Frame (onIts Core) m] : Pres m := ⟨fun _ _ _ h => hm.h h⟩

theorem pres_getI_bind {β : Type} {f : Its.State → M β}
    (hf : ∀ t b t', f t.w.its t = some (b, t') → Core t.w.its t'.w.its) : Pres (getI >>= f) := by
  refine ⟨fun t b t' h => hf t b t' ?_⟩
  rwa [getI_bind] at h

end Axelar.ItsW
