/-
  C19 at chain level — the whole first transaction of `deployRemoteInterchainTokenWithMinter(salt, minter, chain,
  destination minter)` with a local minter and a custom destination minter, for an ESDT token: it needed the stored
  approval of exactly (minter, the SENDER's token id, chain) for exactly that destination minter, and the world after the
  transaction has that approval cleared and every other approval untouched — so the very same request, sent again in the
  resulting world, is refused.
-/
import Axelar.Props.C19
import Axelar.Props.C17OpsMinter
namespace Axelar.Props.C19
open Axelar Axelar.ItsW Axelar.Its Codec Axelar.Props.C17

/-- **A remote deployment with a custom destination minter uses up its approval — the whole transaction.**  If the
    transaction succeeds (ESDT token, local minter named, destination minter supplied), then before it the approval slot
    of (minter, the sender's token id, chain) held exactly the hash of that destination minter, after it the slot is empty
    and no other slot changed. -/
theorem custom_minter_deployment_consumes_the_approval (C : Crypto) (w w' : World)
    (sender its saltArg minterArg salt minter chain dm : Bytes)
    (egld : Nat) (esdt : List (Bytes × Nat × Nat)) (rs : List Bytes) (evs : List Event) (pd : List PendDesc) (tm : Bytes)
    (hk : w.kind its = some .its) (hsalt : topFixed 32 saltArg = some salt)
    (hminter : topFixed 32 minterArg = some minter) (hz : Gateway.isZeroAddr minter = false)
    (htm : w.its.tmAddress (tokenIdRaw C (interchainTokenDeploySalt C w.its sender salt)) = tm)
    (hktm : w.kind tm = some .tokenManager)
    (hesdt : GasService.tokOfBytes (w.tms tm).tokenIdentifier ≠ none)
    (h : World.tx C w sender its "deployRemoteInterchainTokenWithMinter" egld esdt
      [saltArg, minterArg, chain, dm] = (w', .ok rs evs pd)) :
    let key := deployApprovalKey C minter (tokenIdRaw C (interchainTokenDeploySalt C w.its sender salt)) chain
    w.its.approvedMinters key = C.H dm ∧ w.its.approvedMinters key ≠ [] ∧
    w'.its.approvedMinters key = [] ∧ ∀ k, k ≠ key → w'.its.approvedMinters k = w.its.approvedMinters k := by
  intro key
  obtain ⟨-, a, tid, t', -, hwm, rfl⟩ := tx_deployRemoteWithMinter h hk hsalt hminter rfl
  obtain ⟨_, _, hraw, ⟨⟨⟩, -⟩ | ⟨⟨⟩, -, st', hu, rfl⟩⟩ := deployRemoteWithMinter_eq_some hwm (htm ▸ hktm)
  obtain ⟨h1, h2, h3, h4, hta, -⟩ := (use_approval_exact C w.its minter _ chain dm).1 st' hu
  -- the raw deployment only registers the lookup: the service's storage stays as the use of the approval left it
  rw [deployRemoteRaw_esdt C _ _ chain dm _ { w := { w with accts := a, its := st' } } t' tid tm
    ((congrFun hta _).trans htm) hktm hesdt hraw]
  exact ⟨h1, h2, h3, h4⟩

/-- **… and an empty slot refuses the request — the whole transaction.**  In any world in which the approval slot of
    (minter, the sender's token id, chain) is empty — in particular the world right after the deployment above — the request
    with a local minter and ANY destination minter fails and changes nothing. -/
theorem without_approval_the_request_is_refused (C : Crypto) (w : World)
    (sender its saltArg minterArg salt minter chain dm : Bytes)
    (egld : Nat) (esdt : List (Bytes × Nat × Nat)) (tm : Bytes)
    (hk : w.kind its = some .its) (hsalt : topFixed 32 saltArg = some salt)
    (hminter : topFixed 32 minterArg = some minter) (hz : Gateway.isZeroAddr minter = false)
    (htm : w.its.tmAddress (tokenIdRaw C (interchainTokenDeploySalt C w.its sender salt)) = tm)
    (hktm : w.kind tm = some .tokenManager)
    (hempty : w.its.approvedMinters
      (deployApprovalKey C minter (tokenIdRaw C (interchainTokenDeploySalt C w.its sender salt)) chain) = []) :
    World.tx C w sender its "deployRemoteInterchainTokenWithMinter" egld esdt [saltArg, minterArg, chain, dm] =
      (w, .fail) := by
  -- a success would have used the approval
  refine World.tx_fail_of_not_ok fun w' rs evs pd h => ?_
  obtain ⟨-, a, tid, t', -, hwm, -⟩ := tx_deployRemoteWithMinter h hk hsalt hminter rfl
  obtain ⟨_, _, -, ⟨⟨⟩, -⟩ | ⟨⟨⟩, -, st', hu, -⟩⟩ := deployRemoteWithMinter_eq_some hwm (htm ▸ hktm)
  exact nomatch hu.symm.trans ((use_approval_exact C w.its minter _ chain dm).2.1 hempty)

/-! ### Non-vacuity (test): a non-zero local minter and a supplied destination minter -/
example : Gateway.isZeroAddr (List.replicate 32 1) = false ∧ optionalTail [[9, 9]] = some (some [9, 9]) :=
  ⟨by decide, rfl⟩

end Axelar.Props.C19
