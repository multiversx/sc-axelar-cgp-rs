/-
  C07 — ITS ABI decoder: round-trip, canonical acceptance, no misread on arbitrary bytes.
-/
import Axelar.Proofs.AbiDecode
import Axelar.Generated.AbiFields
namespace Axelar.Props.C07
open Axelar Axelar.Abi Axelar.Sol

/-- **No misread, no out-of-bounds read, canonical acceptance — for arbitrary bytes.**
    The model of `raw_abi_decode` succeeds with `ts` *iff* the Solidity layout, read with every
    access inside the buffer, offset/length words below 2^32 and 8-bit words below 256, assigns
    exactly `ts` to the fields (in slot order).  Hence it rejects exactly when no such in-bounds
    layout exists, and never attributes bytes to another field. -/
theorem decode_iff_layout (tys : List Ty) (bs : Bytes) (ts : List Tok) :
    rawDecode tys bs = .ok ts ↔ ReadsAll bs 0 tys ts :=
  rawDecodeGo_iff tys bs 0 ts

/-- Decoding is a function of the bytes: at most one value is ever returned. -/
theorem reads_unique (tys : List Ty) (bs : Bytes) (ts ts' : List Tok)
    (h : ReadsAll bs 0 tys ts) (h' : ReadsAll bs 0 tys ts') : ts = ts' :=
  Except.ok.inj
    (((decode_iff_layout tys bs ts).mpr h).symm.trans ((decode_iff_layout tys bs ts').mpr h'))

/-- **Every canonical Solidity encoding is accepted and decodes to the encoded value.** -/
theorem roundtrip (toks : List Tok) (hf : ∀ t ∈ toks, Tok.fits t)
    (hlen : (enc toks).length < 2 ^ 32) :
    rawDecode (toks.map Tok.ty) (enc toks) = .ok toks :=
  (decode_iff_layout _ _ _).mpr (enc_readsAll hf hlen)

/-- An 8-bit field whose word is ≥ 256 is never accepted. -/
theorem u8_word_ge_256_rejected (bs : Bytes) (i : Nat) (n : Nat) (t : Tok)
    (hw : wordAt bs (32 * i) = some n) (hn : 256 ≤ n) :
    decodeParam .uint8 bs (32 * i) ≠ .ok t := by
  intro h
  cases (decodeParam_iff ..).mp h with
  | uint8 m hm hlt =>
    cases hw.symm.trans hm
    exact Nat.not_lt.mpr hn hlt

/-- An offset word that does not fit 32 bits is never accepted. -/
theorem big_offset_rejected (bs : Bytes) (i : Nat) (n : Nat) (t : Tok)
    (hw : wordAt bs (32 * i) = some n) (hn : 2 ^ 32 ≤ n) :
    decodeParam .bytes bs (32 * i) ≠ .ok t := by
  intro h
  cases (decodeParam_iff ..).mp h with
  | bytes off len h1 h2 _ _ _ =>
    cases hw.symm.trans h1
    exact Nat.not_lt.mpr hn h2

/-- A length word that does not fit 32 bits is never accepted. -/
theorem big_length_rejected (bs : Bytes) (i : Nat) (off n : Nat) (t : Tok)
    (hw : wordAt bs (32 * i) = some off) (hl : wordAt bs off = some n) (hn : 2 ^ 32 ≤ n) :
    decodeParam .bytes bs (32 * i) ≠ .ok t := by
  intro h
  cases (decodeParam_iff ..).mp h with
  | bytes off' len h1 _ h3 h4 _ =>
    cases hw.symm.trans h1
    cases hl.symm.trans h3
    exact Nat.not_lt.mpr hn h4

/-- Nothing is read outside the buffer: a successful dynamic read lies inside `bs`. -/
theorem dynamic_read_in_bounds (bs : Bytes) (i : Nat) (v : Bytes)
    (h : decodeParam .bytes bs (32 * i) = .ok (.bytes v)) :
    ∃ off len, off + 32 + len ≤ bs.length ∧ 32 * i + 32 ≤ bs.length ∧
      v = slice bs (off + 32) len := by
  cases (decodeParam_iff ..).mp h with
  | bytes off len h1 _ _ _ h5 => exact ⟨off, len, h5, (wordAt_eq_some.mp h1).1, rfl⟩

/-! ### Tie to the source: type lists and pop order extracted from abi_types.rs -/

theorem decode_tys :
    Transfer.tys = Generated.transferDecodeTys ∧ Deploy.tys = Generated.deployDecodeTys ∧
    Hub.tys = Generated.hubDecodeTys ∧ Metadata.tys = Generated.metadataDecodeTys ∧
    Link.tys = Generated.linkDecodeTys := ⟨rfl, rfl, rfl, rfl, rfl⟩

theorem initial_offsets :
    Generated.transferInitialOffset = 0 ∧ Generated.deployInitialOffset = 0 ∧
    Generated.hubInitialOffset = 0 ∧ Generated.metadataInitialOffset = 0 ∧
    Generated.linkInitialOffset = 0 := by decide

def convOf : Ty → String
  | .uint256 => "into_biguint" | .bytes32 => "into_managed_byte_array"
  | .bytes => "into_managed_buffer" | .string => "into_managed_buffer" | .uint8 => "into_u8"

/-- pops happen in exactly the reverse of the field order, each with the conversion of the
    field's type, and each popped value lands in the struct field of the same name -/
def popsMatch (enc : List (Ty × String)) (pops : List (String × String)) : Bool :=
  pops == (enc.reverse.map fun (ty, name) => (name, convOf ty))

theorem pops_are_reverse_fields :
    popsMatch Generated.transferEncode Generated.transferPops = true ∧
    popsMatch Generated.deployEncode Generated.deployPops = true ∧
    popsMatch Generated.hubEncode Generated.hubPops = true ∧
    popsMatch Generated.metadataEncode Generated.metadataPops = true ∧
    popsMatch Generated.linkEncode Generated.linkPops = true :=
  ⟨beq_iff_eq.mpr rfl, beq_iff_eq.mpr rfl, beq_iff_eq.mpr rfl, beq_iff_eq.mpr rfl,
    beq_iff_eq.mpr rfl⟩

theorem token_manager_type_from_u8 :
    Generated.tokenManagerTypeFromU8 =
      [(0, "NativeInterchainToken"), (1, "MintBurnFrom"), (2, "LockUnlock"),
       (3, "LockUnlockFee"), (4, "MintBurn")] := rfl

theorem transfer_roundtrip (p : Transfer) (h1 : p.messageType < 2 ^ 256) (h2 : p.amount < 2 ^ 256)
    (h3 : p.tokenId.length = 32) (hlen : (enc p.toks).length < 2 ^ 32) :
    Transfer.decode (enc p.toks) = .ok p := by
  rw [Transfer.decode, show Transfer.tys = p.toks.map Tok.ty from rfl,
    roundtrip p.toks (fitsAll_iff.mp ⟨h1, h3, h2, trivial⟩) hlen]
  rfl

theorem deploy_roundtrip (p : Deploy) (h1 : p.messageType < 2 ^ 256)
    (h3 : p.tokenId.length = 32) (hlen : (enc p.toks).length < 2 ^ 32) :
    Deploy.decode (enc p.toks) = .ok p := by
  rw [Deploy.decode, show Deploy.tys = p.toks.map Tok.ty from rfl,
    roundtrip p.toks (fitsAll_iff.mp ⟨h1, h3, trivial⟩) hlen]
  rfl

theorem hub_roundtrip (p : Hub) (h1 : p.messageType < 2 ^ 256)
    (hlen : (enc p.toks).length < 2 ^ 32) :
    Hub.decode (enc p.toks) = .ok p := by
  rw [Hub.decode, show Hub.tys = p.toks.map Tok.ty from rfl,
    roundtrip p.toks (fitsAll_iff.mp ⟨h1, trivial⟩) hlen]
  rfl

theorem metadata_roundtrip (p : Metadata) (h1 : p.messageType < 2 ^ 256)
    (hlen : (enc p.toks).length < 2 ^ 32) :
    Metadata.decode (enc p.toks) = .ok p := by
  rw [Metadata.decode, show Metadata.tys = p.toks.map Tok.ty from rfl,
    roundtrip p.toks (fitsAll_iff.mp ⟨h1, trivial⟩) hlen]
  rfl

theorem link_roundtrip (p : Link) (h1 : p.messageType < 2 ^ 256)
    (h3 : p.tokenId.length = 32) (h4 : p.tokenManagerType.toNat ≤ 4)
    (hlen : (enc p.toks).length < 2 ^ 32) :
    Link.decode (enc p.toks) = .ok p := by
  rw [Link.decode, show Link.tys = p.toks.map Tok.ty from rfl,
    roundtrip p.toks (fitsAll_iff.mp ⟨h1, h3, trivial⟩) hlen]
  exact if_pos (decide_eq_true h4)

/-- A link payload whose type byte exceeds 4 is rejected. -/
theorem link_bad_type_rejected (bs : Bytes) (p : Link) (h : Link.decode bs = .ok p) :
    p.tokenManagerType.toNat ≤ 4 := by
  revert h
  fun_cases Link.decode bs
  next ts _ =>
    fun_cases Link.ofToks ts
    all_goals
      intro h
      cases h
    next hc _ => exact of_decide_eq_true hc
  next => nofun

/-- A message type that does not fit 63 bits is rejected (`to_u64().unwrap()` via `bi_to_i64`);
    an accepted one is exactly the first word. -/
theorem message_type_fits_u64 (bs : Bytes) (n : Nat) (h : getMessageType bs = .ok n) :
    n < 2 ^ 63 ∧ wordAt bs 0 = some n :=
  (getMessageType_eq_ok.mp h).symm

/-! ### Non-vacuity (tests) -/
example : ∃ bs ts, rawDecode [.uint256] bs = .ok ts :=
  ⟨enc [.uint256 7], [.uint256 7], roundtrip [.uint256 7] (by decide)
    (by rw [enc, List.length_append, heads_length _ _ (by decide)]; decide)⟩

end Axelar.Props.C07
