/-
  C04 — ITS releases inbound tokens only for approved trusted messages, at most once.
-/
import Axelar.Proofs.ItsHistory
import Axelar.Proofs.ItsLedger
import Axelar.Proofs.ItsInbound
namespace Axelar.Props.C04
open Axelar Axelar.ItsW Axelar.Its Codec

/-- **Tokens are handed out only after the gateway approval was found and consumed.**  A
    successful no-data transfer step decoded the payload, validated the message at the gateway
    with result `true`, and then asked the token manager of the payload's token id to give
    exactly the payload amount to exactly the payload recipient. -/
theorem release_requires_validation (C : Crypto) (cx : ICtx) (oc sc mid sa ph payload : Bytes) (t t' : Tx)
    (h : processInterchainTransfer C cx oc sc mid sa ph payload t = some ((), t')) :
    ∃ p, Abi.Transfer.decode payload = .ok p ∧ p.destinationAddress.length = 32 ∧
      (p.data = [] →
        ∃ t0 t1 r, t0.w = t.w ∧ gatewayValidate C cx sc mid sa ph t0 = some (true, t1) ∧
          tmGiveToken C cx p.tokenId p.destinationAddress p.amount t1 = some (r, t')) := by
  obtain ⟨p, _, hd, hl, _⟩ := processInterchainTransfer_eq_some h
  refine ⟨p, hd, hl, fun hdata => ?_⟩
  obtain ⟨evs, t1, r, hv, hg⟩ := processInterchainTransfer_noData h hd hdata
  exact ⟨{ t with evs := evs }, t1, r, rfl, hv, hg⟩

/-- **… and that validation means**: the gateway held `Approved(hash(source chain, message id,
    source address, THIS service, payload hash))`, and the entry is `Executed` afterwards — so
    (by the gateway's lifecycle, C02) every later attempt with the same message fails. -/
theorem validation_consumes_the_approval (C : Crypto) (cx : ICtx) (chain id src ph : Bytes) (t t1 : Tx)
    (hk : t.w.kind t.w.its.gateway = some .gateway)
    (h : gatewayValidate C cx chain id src ph t = some (true, t1)) :
    t.w.gw.messages (chain, id) = .approved (Gateway.messageHash C chain id src cx.self ph) ∧
    t1.w.gw.messages (chain, id) = .executed :=
  gatewayValidate_true h hk

/-- **The source must be the trusted peer of its chain** (first check of `execute`, before
    anything else happens). -/
theorem execute_requires_trusted_source (C : Crypto) (cx : ICtx) (sc mid sa payload : Bytes) (t : Tx)
    (h : isTrustedAddress t.w.its sc sa = false) : execute C cx sc mid sa payload t = none := by
  refine eq_none_of_not_some fun _ t' he => ?_
  cases h.symm.trans (execute_eq_some he).2.2.1

/-- **Unknown token ids fail**: no token manager, no release. -/
theorem unknown_token_id_fails (C : Crypto) (cx : ICtx) (tid dest : Bytes) (amount : Nat) (t : Tx)
    (h : t.w.its.tmAddress tid = []) : tmGiveToken C cx tid dest amount t = none := by
  simp only [tmGiveToken, run_bind, run_deployedTokenManager, h, List.isEmpty_nil, ↓reduceIte]

/-- **Malformed recipients fail** (the destination address must be 32 bytes). -/
theorem malformed_recipient_fails (C : Crypto) (cx : ICtx) (oc sc mid sa ph payload : Bytes) (t : Tx)
    (p : Abi.Transfer) (hd : Abi.Transfer.decode payload = .ok p) (hl : p.destinationAddress.length ≠ 32) :
    processInterchainTransfer C cx oc sc mid sa ph payload t = none := by
  refine eq_none_of_not_some fun _ t' h => ?_
  obtain ⟨p', _, hd', hl', _⟩ := processInterchainTransfer_eq_some h
  cases hd.symm.trans hd'
  exact hl hl'

/-- **Unknown message types fail.** -/
theorem unknown_message_type_fails (C : Crypto) (cx : ICtx) (sc mid sa payload : Bytes) (t : Tx)
    (mt : Nat) (oc inner : Bytes) (hp : getExecuteParams t.w.its sc payload = some (mt, oc, inner))
    (h0 : mt ≠ Generated.MESSAGE_TYPE_INTERCHAIN_TRANSFER)
    (h1 : mt ≠ Generated.MESSAGE_TYPE_DEPLOY_INTERCHAIN_TOKEN) (h5 : mt ≠ Generated.MESSAGE_TYPE_LINK_TOKEN) :
    execute C cx sc mid sa payload t = none := by
  refine eq_none_of_not_some fun _ t' he => ?_
  obtain ⟨_, _, _, _, _, _, hp', hb⟩ := execute_eq_some he
  cases hp.symm.trans hp'
  rcases hb with ⟨e, _⟩ | ⟨e, _⟩ | ⟨e, _⟩
  · exact h0 e
  · exact h1 e
  · exact h5 e

/-- **A release happens with the approval present before and the message executed after**, in
    one transaction: the no-data transfer step succeeds only if the gateway held the approval
    for exactly these fields addressed to the service, and when it has succeeded the gateway
    entry is `Executed` at the end of the step (the token manager call cannot undo that). -/
theorem release_consumes_the_approval (C : Crypto) (cx : ICtx) (oc sc mid sa ph payload : Bytes) (t t' : Tx)
    (p : Abi.Transfer) (hd : Abi.Transfer.decode payload = .ok p) (hdata : p.data = [])
    (hk : t.w.kind t.w.its.gateway = some .gateway)
    (h : processInterchainTransfer C cx oc sc mid sa ph payload t = some ((), t')) :
    t.w.gw.messages (sc, mid) = .approved (Gateway.messageHash C sc mid sa cx.self ph) ∧
    t'.w.gw.messages (sc, mid) = .executed := by
  obtain ⟨evs, t1, r, hv, hg⟩ := processInterchainTransfer_noData h hd hdata
  exact (gatewayValidate_true hv hk).imp_right (Frame.h (R := World.Ext) hg).life.executed

/-- **No release for a message that is already executed**: the no-data transfer step fails. -/
theorem executed_message_releases_nothing (C : Crypto) (cx : ICtx) (oc sc mid sa ph payload : Bytes) (t : Tx)
    (p : Abi.Transfer) (hd : Abi.Transfer.decode payload = .ok p) (hdata : p.data = [])
    (hk : t.w.kind t.w.its.gateway = some .gateway)
    (hex : t.w.gw.messages (sc, mid) = .executed) :
    processInterchainTransfer C cx oc sc mid sa ph payload t = none := by
  refine eq_none_of_not_some fun _ t' hr => ?_
  cases hex.symm.trans (release_consumes_the_approval C cx oc sc mid sa ph payload t t' p hd hdata hk hr).1

/-- **Executed is forever**: no sequence of transactions, deliveries, callbacks and environment
    moves — by any callers, to any contracts, in any order — brings an executed message back. -/
theorem executed_message_stays_executed (C : Crypto) (w : World) (ops : List World.Op) (k : Bytes × Bytes)
    (h : w.gw.messages k = .executed) : (World.run C w ops).gw.messages k = .executed :=
  World.run_executed C ops h

/-- **So the total ever released for one message never exceeds its amount**: after a release
    (which leaves the message executed), in every later state of every history a further
    no-data transfer step for the same message fails. -/
theorem no_second_release (C : Crypto) (w : World) (ops : List World.Op) (cx : ICtx)
    (oc sc mid sa ph payload : Bytes) (p : Abi.Transfer) (hd : Abi.Transfer.decode payload = .ok p)
    (hdata : p.data = []) (hex : w.gw.messages (sc, mid) = .executed) (t : Tx)
    (ht : t.w.gw = (World.run C w ops).gw) (hk : t.w.kind t.w.its.gateway = some .gateway) :
    processInterchainTransfer C cx oc sc mid sa ph payload t = none :=
  executed_message_releases_nothing C cx oc sc mid sa ph payload t p hd hdata hk
    (ht ▸ World.run_executed C ops hex)

/-- **Exact release.**  When the no-data transfer step succeeds, then for EVERY account and EVERY
    asset (EGLD and every ESDT key) the balances after the step are the balances before it with
    exactly `amount` of the token recorded by the manager of the payload's token id added to the
    recipient named in the payload — taken out of the manager's holdings when it is a
    lock/unlock manager (`giveOut`), freshly minted when it is a mint/burn manager — and nothing
    else moved: the service itself, the gateway, the caller and every other account keep
    exactly what they had.  (The manager accepted the call only from the service that deployed
    it: `cx.self = service`.) -/
theorem release_pays_exactly_the_amount (C : Crypto) (cx : ICtx) (oc sc mid sa ph payload : Bytes) (t t' : Tx)
    (p : Abi.Transfer) (hd : Abi.Transfer.decode payload = .ok p) (hdata : p.data = [])
    (tm : Bytes) (st : TokenManager.State) (htm : t.w.its.tmAddress p.tokenId = tm) (hst : t.w.tms tm = st)
    (hkgw : t.w.kind t.w.its.gateway = some .gateway) (hktm : t.w.kind tm = some .tokenManager)
    (h : processInterchainTransfer C cx oc sc mid sa ph payload t = some ((), t')) :
    cx.self = st.service ∧
    World.Led t.w t'.w (giveOut st tm p.amount)
      (World.pt p.destinationAddress (TokenManager.tokOfBytes st.tokenIdentifier) p.amount) := by
  obtain ⟨evs, ⟨w1, e1, p1⟩, r, hv, hg⟩ := processInterchainTransfer_noData h hd hdata
  -- the validation changes the gateway's state only: with that world put in for `w1`, the hypotheses on `t.w`
  -- apply as they stand
  cases (gatewayValidate_eq_some hv hkgw).2
  obtain ⟨hsvc, _, hl⟩ := tmGiveToken_led hg htm hst hktm
  exact ⟨hsvc, hl.congr rfl rfl⟩

/-- … spelled out for a lock/unlock manager: the recipient gains the amount, the manager loses
    it, every other balance is unchanged (recipient ≠ manager). -/
theorem release_from_custody (C : Crypto) (cx : ICtx) (oc sc mid sa ph payload : Bytes) (t t' : Tx)
    (p : Abi.Transfer) (hd : Abi.Transfer.decode payload = .ok p) (hdata : p.data = [])
    (tm : Bytes) (st : TokenManager.State) (htm : t.w.its.tmAddress p.tokenId = tm) (hst : t.w.tms tm = st)
    (hkgw : t.w.kind t.w.its.gateway = some .gateway) (hktm : t.w.kind tm = some .tokenManager)
    (hkind : TokenManager.isMintBurnKind st.implType = false) (hne : p.destinationAddress ≠ tm)
    (h : processInterchainTransfer C cx oc sc mid sa ph payload t = some ((), t')) :
    let tok := TokenManager.tokOfBytes st.tokenIdentifier
    World.balanceOf t'.w p.destinationAddress tok = World.balanceOf t.w p.destinationAddress tok + p.amount ∧
    World.balanceOf t'.w tm tok + p.amount = World.balanceOf t.w tm tok ∧
    ∀ x k, ¬ (k = tok ∧ (x = tm ∨ x = p.destinationAddress)) → World.balanceOf t'.w x k = World.balanceOf t.w x k := by
  have hl := (release_pays_exactly_the_amount C cx oc sc mid sa ph payload t t' p hd hdata tm st htm hst hkgw hktm h).2
  rw [giveOut, hkind, if_neg Bool.false_ne_true] at hl
  exact ⟨hl.dst hne.symm, hl.src hne.symm, fun _ _ => hl.other⟩

/-- message type ids extracted from the source -/
theorem message_types : Generated.MESSAGE_TYPE_INTERCHAIN_TRANSFER = 0 ∧
    Generated.MESSAGE_TYPE_DEPLOY_INTERCHAIN_TOKEN = 1 ∧ Generated.MESSAGE_TYPE_LINK_TOKEN = 5 := by decide

/-! ### Non-vacuity (test) -/
example : isTrustedAddress { trusted := fun c => if c = [1] then [2] else [] } [1] [2] = true := by decide

end Axelar.Props.C04
