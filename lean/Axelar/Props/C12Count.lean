/-
  C12 — operator proposals counted over every history of the governance contract.  The history is the
  concrete `GOp` of `Proofs/GovLedger.lean`; the counters are ghost state the contract never reads.
-/
import Axelar.Proofs.GovCount
namespace Axelar.Props.C12
open Axelar Axelar.Governance Codec

/-- **One approval, at most one successful operator dispatch — over every history.**  From a contract on which
    no operator proposal is approved (deployment), after any list of endpoint calls, governance commands and
    callbacks: per proposal, (approved now) + (operator dispatches in flight) + (operator dispatches that
    succeeded) ≤ (approve-operator commands accepted). -/
theorem operator_dispatches_never_exceed_approvals (C : Crypto) (st0 : State) (h0 : ∀ x, st0.approvals x = false)
    (ops : List GOp) (x : Bytes) :
    opLive (runCnt C { st := st0 } ops).st x + opFlying (runCnt C { st := st0 } ops).inflight x +
      (runCnt C { st := st0 } ops).opSucceeded x ≤ (runCnt C { st := st0 } ops).approvedCmds x :=
  run_cntInv C ops (init_cntInv h0) x

/-- … in particular a proposal whose approval was never commanded is not approved, not in flight as an operator
    dispatch and was never executed by the operator. -/
theorem never_approved_never_operator_dispatched (C : Crypto) (st0 : State) (h0 : ∀ x, st0.approvals x = false)
    (ops : List GOp) (x : Bytes) (hn : (runCnt C { st := st0 } ops).approvedCmds x = 0) :
    (runCnt C { st := st0 } ops).st.approvals x = false ∧ (runCnt C { st := st0 } ops).opSucceeded x = 0 ∧
      opFlying (runCnt C { st := st0 } ops).inflight x = 0 := by
  have := operator_dispatches_never_exceed_approvals C st0 h0 ops x
  rw [hn, Nat.le_zero, Nat.add_eq_zero_iff, Nat.add_eq_zero_iff] at this
  refine ⟨Bool.eq_false_iff.mpr fun hb => ?_, this.2, this.1.2⟩
  exact Nat.one_ne_zero ((if_pos hb).symm.trans this.1.1)

/-! ### Non-vacuity (test): an approve command, a dispatch by the operator and a successful callback are counted -/
example : opWeight ⟨[1], [], 0, [], [9], 0, [2], .egld 0, true⟩ [9] = 1 := by decide
example : opFlying [⟨[1], [], 0, [], [9], 0, [2], .egld 0, true⟩, ⟨[1], [], 0, [], [9], 5, [2], .egld 0, false⟩] [9] = 1 := by
  decide

end Axelar.Props.C12
