/-
  C16 — Governance credits failed dispatch payments to the caller, withdrawable once.
-/
import Axelar.Proofs.GovCall
namespace Axelar.Props.C16
open Axelar Axelar.Governance Codec

/-- total attached amount of (token, nonce) in a payment -/
def attached (p : Payments) (tok : Bytes) (nonce : Nat) : Nat :=
  match p with
  | .egld v => if tok = strBytes "EGLD" ∧ nonce = 0 then v else 0
  | .esdt l => (l.map fun (t, n, a) => if t = tok ∧ n = nonce then a else 0).sum

/-- **Crediting is exact and additive per token**: after `handle_callback_failure` the credit
    of (caller, token, nonce) grew by exactly what the caller attached in that token; nobody
    else's credit moved. -/
theorem credit_exact (st : State) (caller : Bytes) (p : Payments) (key : RefundKey) :
    (creditPayments st caller p).refunds key =
      st.refunds key + (if key.1 = caller then attached p key.2.1 key.2.2 else 0) := by
  cases p with
  | egld v => exact credit_one ..
  | esdt l =>
    unfold creditPayments attached
    induction l generalizing st with
    | nil => simp
    | cons x l ih =>
      simp only [List.foldl_cons, ih, credit_one, List.map_cons, List.sum_cons, @eq_comm _ key.2.1, @eq_comm _ key.2.2]
      by_cases hc : key.1 = caller
      · simp only [if_pos hc, Nat.add_assoc]
      · simp only [if_neg hc]

/-- **A successful dispatched call credits nothing; a failed one credits the dispatching
    caller with every attached amount.** -/
theorem callback_credits (st : State) (d : Dispatch) (results : List Bytes) (key : RefundKey) :
    (callback st d true results).st.refunds key = st.refunds key ∧
    (callback st d false results).st.refunds key =
      st.refunds key + (if key.1 = d.caller then attached d.payments key.2.1 key.2.2 else 0) := by
  refine ⟨rfl, ?_⟩
  rw [callback_refunds]
  exact credit_exact st d.caller d.payments key

/-- the payments remembered by a dispatch are exactly what its caller attached -/
theorem dispatch_remembers_payments (C : Crypto) (st : State) (ctx : Ctx) (t cd : Bytes) (v : Nat)
    (out : Out) (d : Dispatch) :
    (executeProposal C st ctx t cd v = .ok out ∨ executeOperatorProposal C st ctx t cd v = .ok out) →
    out.dispatch = some d → d.payments = anyPayment ctx ∧ d.caller = ctx.caller := by
  intro h hd
  obtain ⟨_, _, _, d', hd', hp⟩ := dispatch_out h
  cases hd'.symm.trans hd
  exact hp

/-- **Withdrawal pays the caller's whole credit to the caller, once**: the credit is zero
    afterwards, exactly the credited amount is sent (nothing when it is zero), and no other
    user's or token's credit changes. -/
theorem withdraw_exact (st : State) (ctx : Ctx) (tok : Bytes) (nonce : Nat) :
    let out := withdrawRefundToken st ctx tok nonce
    out.st.refunds (ctx.caller, tok, nonce) = 0 ∧
    (∀ key, key ≠ (ctx.caller, tok, nonce) → out.st.refunds key = st.refunds key) ∧
    (st.refunds (ctx.caller, tok, nonce) = 0 → out.sends = []) ∧
    (st.refunds (ctx.caller, tok, nonce) ≠ 0 →
      out.sends = [⟨ctx.caller, (match GasService.tokOfBytes tok with | none => none | some t => some (esdtKey t nonce)),
        st.refunds (ctx.caller, tok, nonce)⟩]) ∧
    out.st.eta = st.eta ∧ out.st.approvals = st.approvals := by
  unfold withdrawRefundToken upd
  exact ⟨if_pos rfl, fun _ hk => if_neg hk, fun h => if_pos h, fun h => if_neg h, rfl, rfl⟩

/-- **Credits change only in a failure callback or in the owner's own withdrawal**: every
    other endpoint leaves all credits untouched. -/
theorem credits_untouched_elsewhere (C : Crypto) (st : State) (ctx : Ctx) (func : String)
    (args : List Bytes) (out : Out) (h : call C st ctx func args = .ok out)
    (hf : func ≠ "withdrawRefundToken") : out.st.refunds = st.refunds := by
  cases call_ok h with
  | timeLock _ he => exact (dispatch_out (.inl he)).2.1
  | operator _ he => exact (dispatch_out (.inr he)).2.1
  | withdrawRefundToken hw => exact absurd hw hf
  | _ =>
    subst out
    rfl

/-! ### Non-vacuity (tests) -/
example : attached (.esdt [([1], 0, 10), ([2], 0, 20), ([1], 0, 5)]) [1] 0 = 15 := by decide

end Axelar.Props.C16
