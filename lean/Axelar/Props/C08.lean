/-
  C08 — ITS transfer-with-data is atomic and single-shot across its asynchronous steps.
  Full strength ("never left behind") does NOT hold on the unchanged code (finding F1): see
  `failure_callback_fails_when_take_back_is_rejected`.
-/
import Axelar.Proofs.ItsHistory
import Axelar.Proofs.ItsLedger
import Axelar.Proofs.ItsInbound
namespace Axelar.Props.C08
open Axelar Axelar.ItsW Axelar.Its Codec

/-- **While a delivery is in flight the same message cannot start another one**: step 1 fails
    whenever the lock of (source chain, message id) is set — whatever the gateway, the token
    manager or the caller do. -/
theorem locked_message_cannot_start (C : Crypto) (cx : ICtx) (dest oc sc mid sa ph osa data tid : Bytes)
    (amount : Nat) (t : Tx) (hlock : t.w.its.lock (sc, mid) = true) :
    executeWithToken C cx dest oc sc mid sa ph osa data tid amount t = none := by
  refine eq_none_of_not_some fun _ t' h => ?_
  obtain ⟨t1, _, _, t2, h1, h2, hl, _⟩ := executeWithToken_eq_some h
  -- neither sub-call can write the service's storage: the lock is still set when it is checked
  rw [(Frame.h (R := World.Ext) h2).its, (Frame.h (R := World.Ext) h1).its, hlock] at hl
  cases hl

/-- **The callback always clears the lock first**; on success it then validates the message at
    the gateway (marking it executed), on failure it takes the tokens back into custody. -/
theorem callback_shape (C : Crypto) (cx : ICtx) (sc mid sa ph tid tokRaw : Bytes) (amount : Nat) (t : Tx) :
    executeWithTokenCallback C cx sc mid sa ph tid tokRaw amount false t =
      (do tmTakeToken C cx tid (GasService.tokOfBytes tokRaw) amount
          emit cx "execute_with_interchain_token_failed_event" [sc, mid] [[]])
        { t with w := { t.w with its := { t.w.its with lock := upd t.w.its.lock (sc, mid) false } } } := by
  simp only [executeWithTokenCallback, run_bind, run_getI, run_setI, Bool.false_eq_true, if_false]

/-- **FINDING F1 (negation of "never left behind").**  If the token manager rejects the
    take-back (for instance because the flow limit was lowered, or the epoch's counters moved,
    inside the delivery window), the failure callback as a whole FAILS: its storage writes are
    rolled back, so the lock stays set and the tokens stay in the service. -/
theorem failure_callback_fails_when_take_back_is_rejected (C : Crypto) (cx : ICtx)
    (sc mid sa ph tid tokRaw : Bytes) (amount : Nat) (t : Tx)
    (hrej : tmTakeToken C cx tid (GasService.tokOfBytes tokRaw) amount
      { t with w := { t.w with its := { t.w.its with lock := upd t.w.its.lock (sc, mid) false } } } = none) :
    executeWithTokenCallback C cx sc mid sa ph tid tokRaw amount false t = none := by
  rw [callback_shape, run_bind, hrej]

/-- **Partial (what does hold).**  If the failure callback succeeds, the lock is clear and the
    take-back went through (`tmTakeToken` succeeded: the manager's custody and flow accounting
    were updated by its `takeToken`). -/
theorem failure_callback_success_partial (C : Crypto) (cx : ICtx) (sc mid sa ph tid tokRaw : Bytes)
    (amount : Nat) (t t' : Tx)
    (h : executeWithTokenCallback C cx sc mid sa ph tid tokRaw amount false t = some ((), t')) :
    ∃ t1, tmTakeToken C cx tid (GasService.tokOfBytes tokRaw) amount
        { t with w := { t.w with its := { t.w.its with lock := upd t.w.its.lock (sc, mid) false } } } = some ((), t1) ∧
      t'.w = t1.w := by
  rw [callback_shape] at h
  obtain ⟨_, t1, ht, he⟩ := bind_eq_some.mp h
  cases he
  exact ⟨t1, ht, rfl⟩

/-- **Starting a delivery** (step 1) needs the gateway approval for exactly these fields (read,
    not consumed), an unlocked message, and sets the lock. -/
theorem start_needs_approval_and_sets_the_lock (C : Crypto) (cx : ICtx) (dest oc sc mid sa ph osa data tid : Bytes)
    (amount : Nat) (t t' : Tx) (hk : t.w.kind t.w.its.gateway = some .gateway)
    (h : executeWithToken C cx dest oc sc mid sa ph osa data tid amount t = some ((), t')) :
    t.w.gw.messages (sc, mid) = .approved (Gateway.messageHash C sc mid sa cx.self ph) ∧
    t.w.its.lock (sc, mid) = false ∧ t'.w.its.lock (sc, mid) = true := by
  obtain ⟨t1, _, _, t2, h1, h2, hl, hp⟩ := executeWithToken_eq_some h
  obtain ⟨ha, hw⟩ := gatewayIsApproved_true h1 hk
  rw [addPend_run] at hp
  cases hp
  rw [(Frame.h (R := World.Ext) h2).its, hw] at hl
  exact ⟨ha, hl, by simp [upd]⟩

/-- **The lock of a message in flight is never cleared by anything but the callback of that very
    delivery** — every other operation of every schedule (transactions by anyone to any
    contract, deliveries, other callbacks, environment moves) leaves it set; and while it is set
    the same message cannot start another delivery (`locked_message_cannot_start`). -/
theorem in_flight_lock_persists (C : Crypto) (w : World) (op : World.Op) (sc mid : Bytes)
    (hl : w.its.lock (sc, mid) = true) :
    (World.step C w op).its.lock (sc, mid) = true ∨
    ∃ id p its sa ph tid tok amount, op = .callback id ∧ World.findPending w.pending id = some p ∧
      p.result.isSome = true ∧ p.kind = .itsExecute its sc mid sa ph tid tok amount :=
  World.step_lock C op hl

/-- **A successful delivery ends with the message executed**: when the destination call
    succeeded and the callback ran, the gateway entry is `Executed` — given only that it was the
    approval (as step 1 found it) or already executed, which the life cycle guarantees for every
    schedule in between (`World.run_life`). -/
theorem success_callback_leaves_message_executed (C : Crypto) (cx : ICtx) (sc mid sa ph tid tokRaw : Bytes)
    (amount : Nat) (t t' : Tx) (hk : t.w.kind t.w.its.gateway = some .gateway)
    (hpre : t.w.gw.messages (sc, mid) = .approved (Gateway.messageHash C sc mid sa cx.self ph) ∨
            t.w.gw.messages (sc, mid) = .executed)
    (h : executeWithTokenCallback C cx sc mid sa ph tid tokRaw amount true t = some ((), t')) :
    t'.w.gw.messages (sc, mid) = .executed ∧ t'.w.its.lock (sc, mid) = false := by
  obtain ⟨b, t1, hv, hw⟩ := executeWithTokenCallback_eq_some h
  rw [hw, (Frame.h (R := World.Ext) hv).its]
  refine ⟨?_, by simp [upd]⟩
  rcases hpre with ha | he
  · exact (gatewayValidate_of_approved hv hk ha).2
  · exact (Frame.h (R := World.Ext) hv).life.executed he

/-- … and an executed message can never start a delivery again, in any later state of any
    history: **no schedule delivers the tokens twice.** -/
theorem executed_message_cannot_start (C : Crypto) (w : World) (ops : List World.Op) (cx : ICtx)
    (dest oc sc mid sa ph osa data tid : Bytes) (amount : Nat) (t : Tx)
    (hex : w.gw.messages (sc, mid) = .executed) (ht : t.w.gw = (World.run C w ops).gw)
    (hk : t.w.kind t.w.its.gateway = some .gateway) :
    executeWithToken C cx dest oc sc mid sa ph osa data tid amount t = none := by
  refine eq_none_of_not_some fun _ t' hr => ?_
  cases (ht ▸ World.run_executed C ops hex).symm.trans
    (start_needs_approval_and_sets_the_lock C cx dest oc sc mid sa ph osa data tid amount t t' hk hr).1

/-- **Step 1 moves exactly the amount into the service** (out of a lock/unlock manager's
    holdings, or freshly minted by a mint/burn manager) and registers, as its last pending call,
    the call to the destination carrying exactly that amount of exactly that token; nothing
    else moves. -/
theorem start_moves_the_amount_into_the_service (C : Crypto) (cx : ICtx) (dest oc sc mid sa ph osa data tid : Bytes)
    (amount : Nat) (t t' : Tx) (tm : Bytes) (st : TokenManager.State)
    (htm : t.w.its.tmAddress tid = tm) (hst : t.w.tms tm = st)
    (hkgw : t.w.kind t.w.its.gateway = some .gateway) (hktm : t.w.kind tm = some .tokenManager)
    (h : executeWithToken C cx dest oc sc mid sa ph osa data tid amount t = some ((), t')) :
    World.Led t.w t'.w (giveOut st tm amount) (World.pt cx.self (TokenManager.tokOfBytes st.tokenIdentifier) amount) ∧
    ∃ ds d, t'.pend = ds ++ [d] ∧ d.to = dest ∧
      d.egld = (payOf (TokenManager.tokOfBytes st.tokenIdentifier) amount).1 ∧
      d.esdt = (payOf (TokenManager.tokOfBytes st.tokenIdentifier) amount).2.map
        (fun p => (World.asciiString p.1, p.2.1, p.2.2)) := by
  obtain ⟨⟨w1, e1, p1⟩, tokRaw, amt, t2, h1, h2, _, hp⟩ := executeWithToken_eq_some h
  -- the approval check is a view: the manager is called in the world `t.w`, of which the hypotheses speak
  cases (gatewayIsApproved_true h1 hkgw).2
  obtain ⟨_, hr, hl⟩ := tmGiveToken_led h2 htm hst hktm
  cases hr
  rw [addPend_run] at hp
  cases hp
  -- setting the lock changed no account
  exact ⟨hl.congr rfl rfl, t2.pend, _, rfl, rfl, rfl, rfl⟩

/-- **Step 2, destination succeeds: it receives exactly what the pending call carries** (the
    amount registered by step 1), out of the service's balance; nothing else moves. -/
theorem delivery_pays_the_destination (C : Crypto) (w w' : World) (id : Nat) (vals rs : List Bytes)
    (evs : List Event) (pd : List PendDesc) (p : Pending) (hp : World.findPending w.pending id = some p)
    (h : World.deliver C w id (.ok vals) = (w', .ok rs evs pd)) :
    World.Led w w'
      (fun x k => if x = p.src then World.payAmt p.desc.egld (World.esdtB p.desc.esdt) k else 0)
      (fun x k => if x = p.desc.to then World.payAmt p.desc.egld (World.esdtB p.desc.esdt) k else 0) := by
  unfold World.deliver at h
  simp only [hp] at h
  split at h
  · cases h
  rcases hpay : World.pay w p.src p.desc.to p.desc.egld (World.esdtB p.desc.esdt) with _ | w1
  · simp [hpay] at h
  simp only [hpay, Prod.mk.injEq] at h
  obtain ⟨rfl, _⟩ := h
  -- the world returned is `w1` up to the list of pending calls: same accounts
  exact (World.led_pay hpay).congr rfl rfl

/-- **Step 2, destination fails: nothing moves** (the tokens stay with the service until the
    callback takes them back). -/
theorem failed_delivery_moves_nothing (C : Crypto) (w w' : World) (id : Nat) (o : Outcome)
    (h : World.deliver C w id .fail = (w', o)) : w'.accts = w.accts := by
  -- however a failing delivery ends, only the list of pending calls differs
  rw [← show (World.deliver C w id .fail).1 = w' from congrArg Prod.fst h]
  unfold World.deliver
  cases World.findPending w.pending id with
  | none => rfl
  | some p => dsimp only; cases p.result.isSome <;> rfl

/-- **Step 3 after a successful delivery moves nothing**: the destination keeps exactly the
    amount, the service and the manager keep what they had after step 2. -/
theorem success_callback_moves_nothing (C : Crypto) (cx : ICtx) (sc mid sa ph tid tokRaw : Bytes)
    (amount : Nat) (t t' : Tx) (hk : t.w.kind t.w.its.gateway = some .gateway)
    (h : executeWithTokenCallback C cx sc mid sa ph tid tokRaw amount true t = some ((), t')) :
    World.Led t.w t'.w World.nil World.nil := by
  obtain ⟨b, t1, hv, hw⟩ := executeWithTokenCallback_eq_some h
  -- `by exact`: elaborated once `hv` has fixed the state the validation starts from (`t` with the lock cleared)
  exact (gatewayValidate_led C cx sc mid sa ph _ t1 b (by exact hk) hv).congr rfl (congrArg World.accts hw)

/-- **Step 3 after a failed delivery, when it goes through: exactly the amount returns** from the
    service to the manager's custody (lock/unlock) or is burned (mint/burn); the token is the
    manager's token; nothing else moves.  (When the manager rejects the take-back the whole
    callback fails and the tokens stay in the service: finding F1.) -/
theorem failure_callback_returns_the_amount (C : Crypto) (cx : ICtx) (sc mid sa ph tid tokRaw : Bytes)
    (amount : Nat) (t t' : Tx) (tm : Bytes) (st : TokenManager.State)
    (htm : t.w.its.tmAddress tid = tm) (hst : t.w.tms tm = st) (hktm : t.w.kind tm = some .tokenManager)
    (h : executeWithTokenCallback C cx sc mid sa ph tid tokRaw amount false t = some ((), t')) :
    GasService.tokOfBytes tokRaw = TokenManager.tokOfBytes st.tokenIdentifier ∧
    World.Led t.w t'.w (World.pt cx.self (GasService.tokOfBytes tokRaw) amount) (takeIn st tm amount) ∧
    t'.w.its.lock (sc, mid) = false := by
  obtain ⟨t1, ht, hw⟩ := failure_callback_success_partial C cx sc mid sa ph tid tokRaw amount t t' h
  obtain ⟨_, htok, hl, _⟩ := tmTakeToken_led ht htm hst hktm
  rw [hw, (Frame.h (R := World.Ext) ht).its]
  -- clearing the lock changed no account
  exact ⟨htok, hl.congr rfl rfl, by simp [upd]⟩

/-! ### Non-vacuity (test) -/
example : (upd (fun (_ : Bytes × Bytes) => true) ([1], [2]) false) ([1], [2]) = false := by decide

end Axelar.Props.C08
