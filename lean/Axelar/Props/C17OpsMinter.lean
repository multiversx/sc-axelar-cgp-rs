/-
  C17 — the whole-operation theorems for `deployRemoteInterchainTokenWithMinter(salt, minter, chain, [destination
  minter])`: whatever the minter argument and the approval do, the first transaction moves exactly the attached EGLD
  from the sender into the service, registers one lookup remembering it, and a successful callback takes exactly that
  amount out again.
-/
import Axelar.Props.C17Ops
import Axelar.Proofs.ItsFrame
namespace Axelar.Props.C17
open Axelar Axelar.ItsW Axelar.Its Codec

/-- the `isMinter` view of a token manager, called by the service: nothing changes -/
theorem subcall_isMinter (C : Crypto) (cx : ICtx) (tm minter : Bytes) (t t' : Tx) (rs : List Bytes)
    (hk : t.w.kind tm = some .tokenManager)
    (h : subcall C cx tm "isMinter" 0 [] [minter] t = some (rs, t')) :
    t' = t := by
  obtain ⟨out, hcall, -, hv⟩ := subcall_tm_view h hk
  rw [TokenManager.call_isMinter rfl] at hcall
  split at hcall <;> cases hcall
  exact (hv rfl rfl rfl).trans (by simp [World.stamp])

/-- the minter check reads the manager's view and changes nothing -/
theorem checkTokenMinter_same {C : Crypto} {cx : ICtx} {tid minter : Bytes} {t t' : Tx}
    (h : checkTokenMinter C cx tid minter t = some ((), t'))
    (hk : t.w.kind (t.w.its.tmAddress tid) = some .tokenManager) : t' = t := by
  rw [checkTokenMinter, getI_bind] at h
  obtain ⟨-, h⟩ := require_bind.mp h
  obtain ⟨rs, t1, hs, h⟩ := bind_eq_some.mp h
  obtain ⟨-, h⟩ := require_bind.mp h
  exact (require_eq_some.mp h).2.symm.trans (subcall_isMinter C cx _ minter t _ rs hk hs)

/-- **`deployRemoteWithMinter`, opened**: the minter check through the manager's view changes nothing; without a
    destination minter nothing else happens, with one a local minter is named and the approval of (minter, token id,
    chain) for exactly that destination minter is used — the only change is the service's storage after that use;
    then the raw remote deployment runs for the caller's interchain salt. -/
theorem deployRemoteWithMinter_eq_some {C : Crypto} {cx : ICtx} {salt minter chain tid : Bytes} {dmOpt : Option Bytes}
    {t t' : Tx}
    (h : deployRemoteWithMinter C cx salt minter chain dmOpt t = some (tid, t'))
    (hk : t.w.kind (t.w.its.tmAddress (tokenIdRaw C (interchainTokenDeploySalt C t.w.its cx.caller salt))) = some .tokenManager) :
    ∃ dm t1, deployRemoteInterchainTokenRaw C cx (interchainTokenDeploySalt C t.w.its cx.caller salt) chain dm cx.caller t1
        = some (tid, t') ∧
      ((dmOpt = none ∧ t1 = t) ∨
       (dmOpt = some dm ∧ Gateway.isZeroAddr minter = false ∧ ∃ st',
        useDeployApproval C t.w.its minter (tokenIdRaw C (interchainTokenDeploySalt C t.w.its cx.caller salt)) chain dm
          = some st' ∧ t1 = { t with w := { t.w with its := st' } })) := by
  rw [deployRemoteWithMinter_eq, getI_bind] at h
  obtain ⟨dm, t1, hm, hraw⟩ := bind_eq_some.mp h
  refine ⟨dm, t1, hraw, ?_⟩
  obtain ⟨-, hn, -, rfl⟩ | ⟨hz, t0, hc, hd⟩ := minterCheck_eq_some hm
  · exact .inl ⟨hn, rfl⟩
  · cases checkTokenMinter_same hc hk
    obtain ⟨hn, -, rfl⟩ | ⟨hs, st', hu, rfl⟩ := hd
    · exact .inl ⟨hn, rfl⟩
    · exact .inr ⟨hs, hz, st', hu, rfl⟩

/-- **What `deployRemoteWithMinter` does before the raw remote deployment** (minter check through the manager's view,
    use of the approval): the world is untouched except for the service's own storage, in which neither the token-manager
    table nor the pause flag changes; then the raw deployment runs for the caller's interchain salt. -/
theorem deployRemoteWithMinter_reaches_raw (C : Crypto) (cx : ICtx) (salt minter chain : Bytes) (dmOpt : Option Bytes)
    (t t' : Tx) (tid tm : Bytes)
    (htm : t.w.its.tmAddress (tokenIdRaw C (interchainTokenDeploySalt C t.w.its cx.caller salt)) = tm)
    (hk : t.w.kind tm = some .tokenManager)
    (h : deployRemoteWithMinter C cx salt minter chain dmOpt t = some (tid, t')) :
    ∃ (its' : Its.State) (dmRaw : Bytes),
      its'.tmAddress = t.w.its.tmAddress ∧ its'.paused = t.w.its.paused ∧
      deployRemoteInterchainTokenRaw C cx (interchainTokenDeploySalt C t.w.its cx.caller salt) chain dmRaw cx.caller
        { t with w := { t.w with its := its' } } = some (tid, t') := by
  subst htm
  obtain ⟨dmRaw, t1, hraw, ⟨-, rfl⟩ | ⟨-, -, st', hu, rfl⟩⟩ := deployRemoteWithMinter_eq_some h hk
  · exact ⟨_, dmRaw, rfl, rfl, hraw⟩
  · obtain ⟨-, rfl⟩ := useDeployApproval_eq_some.mp hu
    -- `by rfl`: a plain `rfl` is elaborated before `hraw` and would fix `its'` as `t.w.its`
    exact ⟨_, dmRaw, by rfl, by rfl, hraw⟩

/-- **A successful `deployRemoteInterchainTokenWithMinter` transaction**: EGLD only, the payment, then
    `deployRemoteWithMinter` on the decoded arguments in the world after the payment -/
theorem tx_deployRemoteWithMinter {C : Crypto} {w w' : World} {sender its saltArg minterArg salt minter chain : Bytes}
    {rest : List Bytes} {dmOpt : Option Bytes} {egld : Nat} {esdt : List (Bytes × Nat × Nat)} {rs : List Bytes}
    {evs : List Event} {pd : List PendDesc}
    (h : World.tx C w sender its "deployRemoteInterchainTokenWithMinter" egld esdt
      (saltArg :: minterArg :: chain :: rest) = (w', .ok rs evs pd))
    (hk : w.kind its = some .its) (hsalt : topFixed 32 saltArg = some salt)
    (hminter : topFixed 32 minterArg = some minter) (hrest : optionalTail rest = some dmOpt) :
    esdt = [] ∧ ∃ a tid t', World.pay w sender its egld [] = some { w with accts := a } ∧
      deployRemoteWithMinter C (World.itsCtx w sender its egld []) salt minter chain dmOpt { w := { w with accts := a } }
        = some (tid, t') ∧
      t'.w = w' := by
  obtain ⟨a, t', hp, hc, rfl, -, -⟩ := World.tx_its h hk
  rw [call_deployRemoteWithMinter, getI_bind, hsalt, hminter, hrest] at hc
  obtain ⟨hoe, hc⟩ := ite_fail_eq_some.mp hc
  obtain ⟨tid, hwm, -⟩ := retUnlessAsync_eq_some.mp hc
  cases World.esdt_nil_of_onlyEgld hoe
  exact ⟨rfl, a, tid, t', hp, hwm, rfl⟩

/-- **First transaction of `deployRemoteInterchainTokenWithMinter` for an ESDT token** (any minter argument, with or
    without a destination minter): the sender's EGLD goes to the service, nothing else moves for any account or asset, and
    exactly one token lookup is registered which remembers that amount as the gas value and the sender as the one to
    refund. -/
theorem remote_with_minter_first_transaction (C : Crypto) (w w' : World)
    (sender its saltArg minterArg salt minter chain : Bytes) (rest : List Bytes) (dmOpt : Option Bytes)
    (egld : Nat) (esdt : List (Bytes × Nat × Nat)) (rs : List Bytes) (evs : List Event) (pd : List PendDesc) (tm : Bytes)
    (hk : w.kind its = some .its) (hsalt : topFixed 32 saltArg = some salt)
    (hminter : topFixed 32 minterArg = some minter) (hrest : optionalTail rest = some dmOpt)
    (htm : w.its.tmAddress (tokenIdRaw C (interchainTokenDeploySalt C w.its sender salt)) = tm)
    (hktm : w.kind tm = some .tokenManager)
    (hesdt : GasService.tokOfBytes (w.tms tm).tokenIdentifier ≠ none)
    (h : World.tx C w sender its "deployRemoteInterchainTokenWithMinter" egld esdt
      (saltArg :: minterArg :: chain :: rest) = (w', .ok rs evs pd)) :
    esdt = [] ∧
    World.Led w w' (World.pt sender none egld) (World.pt its none egld) ∧
    ∃ dmRaw, w'.pending = w.pending ++
      [⟨⟨w.nextPending, esdtSystemSc, "getTokenProperties", 0, [], [(w.tms tm).tokenIdentifier]⟩, its,
        .itsDeployRemote its (interchainTokenDeploySalt C w.its sender salt) chain
          ((w.tms tm).tokenIdentifier.take ((w.tms tm).tokenIdentifier.length - 7)) dmRaw egld sender, none⟩] := by
  obtain ⟨rfl, a, tid, t', hp, hwm, rfl⟩ := tx_deployRemoteWithMinter h hk hsalt hminter hrest
  obtain ⟨its', dmRaw, hta, -, hraw⟩ := deployRemoteWithMinter_reaches_raw C _ salt minter chain dmOpt _ t' tid tm
    htm hktm hwm
  obtain ⟨hl, hpend⟩ := first_transaction_of_raw hp hraw hta htm hktm hesdt
  exact ⟨rfl, hl, dmRaw, hpend⟩

/-- **The whole `deployRemoteInterchainTokenWithMinter` of an ESDT token**: over the operation the service's EGLD goes up
    by exactly the attached amount (first transaction) and down by exactly the same amount (successful callback of the
    delivered lookup, whatever the reply and whatever the schedule put in between). -/
theorem remote_with_minter_operation_leaves_nothing_in_the_service (C : Crypto) (w0 w1 w2 w3 : World)
    (sender its saltArg minterArg salt0 minter chain tm : Bytes) (rest : List Bytes) (dmOpt : Option Bytes)
    (egld : Nat) (esdt : List (Bytes × Nat × Nat))
    (rs rs' : List Bytes) (evs evs' : List Event) (pd pd' : List PendDesc)
    (hk : w0.kind its = some .its) (hs : sender ≠ its) (hsalt : topFixed 32 saltArg = some salt0)
    (hminter : topFixed 32 minterArg = some minter) (hrest : optionalTail rest = some dmOpt)
    (htm : w0.its.tmAddress (tokenIdRaw C (interchainTokenDeploySalt C w0.its sender salt0)) = tm)
    (hktm : w0.kind tm = some .tokenManager)
    (hesdt : GasService.tokOfBytes (w0.tms tm).tokenIdentifier ≠ none)
    (h1 : World.tx C w0 sender its "deployRemoteInterchainTokenWithMinter" egld esdt
      (saltArg :: minterArg :: chain :: rest) = (w1, .ok rs evs pd))
    (p : Pending) (hp : World.findPending w2.pending w0.nextPending = some p)
    (salt sym dm : Bytes) (hpk : p.kind = .itsDeployRemote its salt chain sym dm egld sender)
    (okFlag : Bool) (vals : List Bytes) (hres : p.result = some (okFlag, vals))
    (hkgs : w2.kind w2.its.gasService = some .gasService) (hkgw : w2.kind w2.its.gateway = some .gateway)
    (hg : w2.its.gasService ≠ its) (hchain : chain ≠ [])
    (h2 : World.callback C w2 w0.nextPending = (w3, .ok rs' evs' pd')) :
    World.egld w1 its = World.egld w0 its + egld ∧ World.egld w3 its + egld = World.egld w2 its :=
  ⟨(remote_with_minter_first_transaction C w0 w1 sender its saltArg minterArg salt0 minter chain rest
      dmOpt egld esdt rs evs pd tm hk hsalt hminter hrest htm hktm hesdt h1).2.1.dst hs,
    remote_deploy_callback_service_keeps_nothing h2 hp hpk hres hkgs hkgw hchain hs hg⟩

/-! ### Non-vacuity (test): the optional destination minter argument -/
example : optionalTail [[1, 2]] = some (some [1, 2]) ∧ optionalTail [] = some none := ⟨rfl, rfl⟩

end Axelar.Props.C17
