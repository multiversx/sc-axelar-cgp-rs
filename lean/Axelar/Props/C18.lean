/-
  C18 — ITS token deployment flows consume authority once and issue one token per id.
-/
import Axelar.Proofs.ItsHistory
import Axelar.Proofs.ItsMintStep
namespace Axelar.Props.C18
open Axelar Axelar.ItsW Axelar.Its Codec

/-- **Once a token manager has recorded its token, that token is never replaced** — by any
    endpoint call (any caller, arguments, payment, time) … -/
theorem recorded_token_survives_every_call (st : TokenManager.State) (ctx : TokenManager.Ctx) (func : String)
    (args : List Bytes) (out : TokenManager.Out) (h : TokenManager.call st ctx func args = .ok out)
    (hset : st.tokenIdentifier ≠ []) : out.st.tokenIdentifier = st.tokenIdentifier :=
  (TokenManager.call_identity h).2.2.2

/-- … nor by an issuance callback that arrives later (a second issuance that was in flight). -/
theorem recorded_token_survives_issue_callback (st : TokenManager.State) (result : Option Bytes)
    (hset : st.tokenIdentifier ≠ []) :
    (TokenManager.deployTokenCallback st result).st.tokenIdentifier = st.tokenIdentifier := by
  unfold TokenManager.deployTokenCallback
  cases result with
  | none => rfl
  | some tok => simp [hset]

/-- a successful issuance records exactly the identifier the system contract returned; a failed
    one records nothing (and the issue cost stays in the manager for the retry) -/
theorem issue_callback_records (st : TokenManager.State) (tok : Bytes) (hempty : st.tokenIdentifier = []) :
    (TokenManager.deployTokenCallback st (some tok)).st.tokenIdentifier = tok ∧
    (TokenManager.deployTokenCallback st none).st = st := by
  simp [TokenManager.deployTokenCallback, hempty]

/-- **Inbound deploy message, step 1**: creates the manager only when the gateway holds the
    approval, and does NOT consume it (`isMessageApproved` is a view: the gateway state is
    unchanged by this step's gateway call). -/
theorem inbound_step1_only_reads_the_approval (C : Crypto) (cx : ICtx) (a b c d : Bytes) (t t1 : Tx) (r : Bool)
    (hk : t.w.kind t.w.its.gateway = some .gateway)
    (h : gatewayIsApproved C cx a b c d t = some (r, t1)) : t1.w.gw = t.w.gw :=
  congrArg World.gw (gatewayIsApproved_eq_some h hk).2

/-- step 1 reads exactly the approval for (source chain, message id, source address, THIS
    service, payload hash) -/
theorem inbound_step1_reads_the_exact_approval (C : Crypto) (cx : ICtx) (a b c d : Bytes) (t t1 : Tx)
    (hk : t.w.kind t.w.its.gateway = some .gateway)
    (h : gatewayIsApproved C cx a b c d t = some (true, t1)) :
    t.w.gw.messages (a, b) = .approved (Gateway.messageHash C a b c cx.self d) :=
  (gatewayIsApproved_true h hk).1

/-- **Nothing happens without the approval, and the issuing step consumes it**: a deploy-token
    message makes progress only if the gateway holds the approval for exactly its fields
    addressed to the service; the manager-creating step leaves the gateway untouched; the
    issuing step leaves the message `Executed`. -/
theorem deploy_message_step (C : Crypto) (cx : ICtx) (sc mid sa ph payload : Bytes) (t t' : Tx) (d : Abi.Deploy)
    (hd : Abi.Deploy.decode payload = .ok d) (hk : t.w.kind t.w.its.gateway = some .gateway)
    (h : processDeployInterchainToken C cx sc mid sa ph payload t = some ((), t')) :
    t.w.gw.messages (sc, mid) = .approved (Gateway.messageHash C sc mid sa cx.self ph) ∧
    ((t.w.its.tmAddress d.tokenId = [] ∧ t'.w.gw = t.w.gw) ∨
     (t.w.its.tmAddress d.tokenId ≠ [] ∧ t'.w.gw.messages (sc, mid) = .executed)) := by
  simp only [processDeployInterchainToken, hd] at h
  rw [getI_bind] at h
  by_cases he : (t.w.its.tmAddress d.tokenId).isEmpty = true
  · -- step 1: the approval is read and the manager created; neither touches the gateway
    rw [if_pos he] at h
    obtain ⟨_, h⟩ := require_bind.mp h
    obtain ⟨ok, t1, hv, h⟩ := bind_eq_some.mp h
    obtain ⟨hok, h⟩ := require_bind.mp h
    obtain ⟨addr, t2, hm, hp⟩ := bind_eq_some.mp h
    cases hp
    obtain ⟨ha, hw⟩ := gatewayIsApproved_true (hok ▸ hv) hk
    exact ⟨ha, .inl ⟨List.isEmpty_iff.mp he,
      by rw [(deployTokenManagerRaw_eq_some hm).2.2.2.1, hw]⟩⟩
  · -- step 2: the validation consumes the approval
    rw [if_neg he] at h
    obtain ⟨ok, t1, hv, h⟩ := bind_eq_some.mp h
    obtain ⟨hok, h⟩ := require_bind.mp h
    obtain ⟨ha, hex⟩ := gatewayValidate_true (hok ▸ hv) hk
    -- the rest of the step (minter parsing, the manager's `deployInterchainToken`) keeps `executed`
    exact ⟨ha, .inr ⟨mt List.isEmpty_iff.mpr he, (Frame.h (R := World.Ext) h).life.executed hex⟩⟩

/-- **An executed deploy message drives nothing further** — neither step. -/
theorem executed_deploy_message_does_nothing (C : Crypto) (cx : ICtx) (sc mid sa ph payload : Bytes) (t : Tx)
    (d : Abi.Deploy) (hd : Abi.Deploy.decode payload = .ok d) (hk : t.w.kind t.w.its.gateway = some .gateway)
    (hex : t.w.gw.messages (sc, mid) = .executed) :
    processDeployInterchainToken C cx sc mid sa ph payload t = none := by
  refine eq_none_of_not_some fun _ t' hr => ?_
  cases hex.symm.trans (deploy_message_step C cx sc mid sa ph payload t t' d hd hk hr).1

/-- **At most one issuance per message**: once the issuing step has run (message executed), in
    every later state of every history both steps fail for that message. -/
theorem one_issuance_per_message (C : Crypto) (w : World) (ops : List World.Op) (cx : ICtx)
    (sc mid sa ph payload : Bytes) (d : Abi.Deploy) (hd : Abi.Deploy.decode payload = .ok d)
    (hex : w.gw.messages (sc, mid) = .executed) (t : Tx) (ht : t.w.gw = (World.run C w ops).gw)
    (hk : t.w.kind t.w.its.gateway = some .gateway) :
    processDeployInterchainToken C cx sc mid sa ph payload t = none :=
  executed_deploy_message_does_nothing C cx sc mid sa ph payload t d hd hk
    (ht ▸ World.run_executed C ops hex)

/-- **A zero-supply deployment without a minter is refused**, and so is naming the service
    itself as minter. -/
theorem zero_supply_without_minter_refused (C : Crypto) (cx : ICtx) (salt n s : Bytes) (d : Nat) (m : Bytes) (t : Tx)
    (h : Gateway.isZeroAddr m = true ∨ m = cx.self) :
    factoryDeployInterchainToken C cx salt n s d 0 m t = none := by
  refine eq_none_of_not_some fun _ t' hr => ?_
  obtain ⟨hne, hz⟩ := factoryDeploy_minter hr
  rcases h with h | h
  · cases h.symm.trans (hz rfl)
  · exact hne h

/-- **Mint and hand-over, exactly.**  A successful third factory transaction (initial supply
    > 0) for a nominated minter other than the service: the deployer (the caller) receives
    exactly the requested supply of the manager's token, freshly minted — no other balance of
    any account in any asset changes —; afterwards the service holds none of the minter,
    operator and flow-limiter roles on that manager and the nominated minter holds all three;
    the recorded token is unchanged.  The step was possible only because the service held the
    minter role. -/
theorem mint_step_mints_the_supply_and_hands_over (C : Crypto) (cx : ICtx) (tm minter : Bytes) (supply : Nat)
    (t t' : Tx) (hk : t.w.kind tm = some .tokenManager) (hne : minter ≠ cx.self)
    (h : factoryMintStep C cx tm minter supply t = some ((), t')) :
    ((t.w.tms tm).roles cx.self).minter = true ∧
    (t'.w.tms tm).roles cx.self = {} ∧ (t'.w.tms tm).roles minter = ⟨true, true, true⟩ ∧
    (t'.w.tms tm).tokenIdentifier = (t.w.tms tm).tokenIdentifier ∧
    ∃ tk, TokenManager.tokOfBytes (t.w.tms tm).tokenIdentifier = some tk ∧
      World.Led t.w t'.w World.nil (World.pt cx.caller (some tk) supply) :=
  (factoryMintStep_roles h hk hne).2

/-- **Exactly once**: without the minter role on the manager the mint step fails — so after a
    successful mint step (which leaves the service with no role at all) it cannot be repeated,
    whatever supply and minter the repetition names. -/
theorem mint_step_needs_the_minter_role (C : Crypto) (cx : ICtx) (tm minter : Bytes) (supply : Nat) (t : Tx)
    (hk : t.w.kind tm = some .tokenManager) (hno : ((t.w.tms tm).roles cx.self).minter = false) :
    factoryMintStep C cx tm minter supply t = none := by
  refine eq_none_of_not_some fun _ t' h => ?_
  -- the first call is `mint`, which requires the role
  obtain ⟨r1, t1, h1, _⟩ := bind_eq_some.mp h
  obtain ⟨o1, c1, _⟩ := subcall_tm_call h1 hk
  cases hno.symm.trans ((TokenManager.intersects_MINTER _).symm.trans (TokenManager.mint_eq_ok (TokenManager.call_mint c1)).2.1)

theorem mint_step_cannot_be_repeated (C : Crypto) (cx cx2 : ICtx) (tm minter minter2 : Bytes) (supply supply2 : Nat)
    (t t' : Tx) (hk : t.w.kind tm = some .tokenManager) (hne : minter ≠ cx.self) (hself : cx2.self = cx.self)
    (h : factoryMintStep C cx tm minter supply t = some ((), t')) :
    factoryMintStep C cx2 tm minter2 supply2 t' = none := by
  obtain ⟨hk', _, h2, _⟩ := factoryMintStep_roles h hk hne
  exact mint_step_needs_the_minter_role C cx2 tm minter2 supply2 t' hk' (by rw [hself, h2])

/-- **The service itself is never accepted as the nominated minter** of a local deployment
    (with or without an initial supply): it could not hand the roles over and the mint step
    could be repeated (defect F7, repaired by the `fix:` commit named in known_findings.json). -/
theorem service_is_never_the_nominated_minter (C : Crypto) (cx : ICtx) (salt n s : Bytes) (d supply : Nat) (t : Tx) :
    factoryDeployInterchainToken C cx salt n s d supply cx.self t = none :=
  eq_none_of_not_some fun _ _ hr => (factoryDeploy_minter hr).1 rfl

/-! ### Non-vacuity (test) -/
example : (TokenManager.deployTokenCallback { tokenIdentifier := [1] } (some [2])).st.tokenIdentifier = [1] := by
  decide

end Axelar.Props.C18
