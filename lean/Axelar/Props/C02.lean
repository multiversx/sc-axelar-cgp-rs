/-
  C02 — Gateway message lifecycle is monotone and each message validates at most once.
-/
import Axelar.Proofs.ItsHistory
namespace Axelar.Props.C02
open Axelar Axelar.Gateway Axelar.GatewaySpec Codec

/-- **Monotone lifecycle, one step.** Whatever endpoint is called, by whomever, with whatever
    arguments, every message entry either stays as it is, or moves non-existent → approved, or
    approved → executed. -/
theorem step_lifecycle (C : Crypto) (st : State) (c : Call) (k : Bytes × Bytes) :
    Trans (st.messages k) ((stepCall C st c).messages k) :=
  stepCall_induct (fun s => Trans (st.messages k) (s.messages k)) (.refl _)
    fun h => call_trans h k

/-- **Monotone lifecycle, all histories**: ranks never decrease, an approval hash is never
    replaced by another one, executed is absorbing. -/
theorem history_lifecycle (C : Crypto) (st : State) (cs : List Call) (k : Bytes × Bytes) :
    rank (st.messages k) ≤ rank ((run C st cs).messages k) ∧
    (∀ h, st.messages k = .approved h →
        (run C st cs).messages k = .approved h ∨ (run C st cs).messages k = .executed) ∧
    (st.messages k = .executed → (run C st cs).messages k = .executed) := by
  have hlife : World.Life st (run C st cs) :=
    run_induct (World.Life st) (fun hs h => hs.trans (.of_trans (call_trans h))) cs st (.refl st)
  refine ⟨?_, (hlife k).2, (hlife k).1⟩
  exact run_induct (fun s => rank (st.messages k) ≤ rank (s.messages k))
    (fun hs h => Nat.le_trans hs (call_trans h k).rank_le) cs st (Nat.le_refl _)

/-- **An approval batch never touches an existing entry**, even when it carries different
    contents for that id (and even for duplicates inside the batch: the first one wins). -/
theorem approvals_leave_existing_untouched (C : Crypto) (st st' : State) (ctx : Ctx)
    (args rs : List Bytes) (evs : List Ev) (k : Bytes × Bytes)
    (h : call C st ctx "approveMessages" args = .ok (st', rs, evs))
    (hex : st.messages k ≠ .nonExistent) : st'.messages k = st.messages k := by
  obtain ⟨m, p, rfl, ha⟩ := approve_call_inv h
  obtain ⟨_, msgs, _, _, _, _, _, he⟩ := approveMessages_eq_ok.mp ha
  have := approveAll_trans C st msgs [] k
  rw [← he] at this
  exact this.eq_of_ne hex

/-- **Validation**: returns true exactly when the entry is the approval whose hash binds this
    source address, this payload hash and *the caller* as destination contract; then the entry
    becomes executed; otherwise nothing changes and no event is emitted. -/
theorem validate_characterisation (C : Crypto) (st : State) (caller chain id src ph : Bytes) :
    let r := validateMessage C st caller chain id src ph
    (r.2.1 = true ↔ st.messages (chain, id) = .approved (messageHash C chain id src caller ph)) ∧
    (r.2.1 = true → r.1.messages (chain, id) = .executed ∧
        ∀ k, k ≠ (chain, id) → r.1.messages k = st.messages k) ∧
    (r.2.1 = false → r.1 = st ∧ r.2.2 = []) := by
  have hs := validateMessage_spec C st caller chain id src ph
  refine ⟨hs.1, fun ht => ?_, hs.2.2⟩
  simp only [hs.2.1 ht]
  exact ⟨upd_same _ _ _, fun k hk => upd_other hk _ _⟩

/-- number of `validateMessage` calls for message `k` that returned true along a history -/
def trueValidations (C : Crypto) (k : Bytes × Bytes) : State → List Call → Nat
  | _, [] => 0
  | st, c :: cs =>
    (match c.func, c.args with
      | "validateMessage", [chain, id, _, _] =>
        if (chain, id) = k ∧ results C st c = some [encBool true] then 1 else 0
      | _, _ => 0) + trueValidations C k (stepCall C st c) cs

theorem trueValidations_cons (C : Crypto) (k : Bytes × Bytes) (st : State) (c : Call) (cs : List Call) :
    trueValidations C k st (c :: cs) = trueValidations C k (stepCall C st c) cs ∨
    (trueValidations C k st (c :: cs) = 1 + trueValidations C k (stepCall C st c) cs ∧
      (∃ h, st.messages k = .approved h) ∧ (stepCall C st c).messages k = .executed) := by
  rw [trueValidations]
  split
  · rename_i chain id src ph hf ha
    split
    · rename_i hc
      obtain ⟨rfl, hres⟩ := hc
      obtain ⟨h1, h2⟩ := validate_true_result hres hf ha
      exact .inr ⟨rfl, ⟨_, h1⟩, h2⟩
    · exact .inl (Nat.zero_add _)
  · exact .inl (Nat.zero_add _)

theorem no_true_after_executed (C : Crypto) (k : Bytes × Bytes) (st : State) (cs : List Call)
    (hex : st.messages k = .executed) : trueValidations C k st cs = 0 := by
  induction cs generalizing st with
  | nil => rfl
  | cons c cs ih =>
    rcases trueValidations_cons C k st c cs with h | ⟨_, ⟨x, hx⟩, _⟩
    · have ht := step_lifecycle C st c k
      rw [hex] at ht
      rw [h, ih _ ht.executed]
    · cases hex.symm.trans hx

/-- **At most one successful validation per message, over every history.** -/
theorem validates_at_most_once (C : Crypto) (k : Bytes × Bytes) (st : State) (cs : List Call) :
    trueValidations C k st cs ≤ 1 := by
  induction cs generalizing st with
  | nil => exact Nat.zero_le 1
  | cons c cs ih =>
    rcases trueValidations_cons C k st c cs with h | ⟨h, _, hexec⟩
    · rw [h]
      exact ih _
    · -- this call returned true, so the entry is executed afterwards: no later success
      rw [h, no_true_after_executed C k _ cs hexec]
      exact Nat.le_refl 1

/-- **Views agree with the state** (by definition of the views; the correspondence check
    compares them with the real views after every operation). -/
theorem views_agree (C : Crypto) (st : State) (chain id src ca ph : Bytes) :
    (isMessageExecuted st chain id = true ↔ st.messages (chain, id) = .executed) ∧
    (isMessageApproved C st chain id src ca ph = true ↔
      st.messages (chain, id) = .approved (messageHash C chain id src ca ph)) := by
  simp [isMessageExecuted, isMessageApproved]

/-- `message_hash` binds id, source address, destination contract and payload hash
    (collision-or-equal; the two last fields are fixed-width, the others length-prefixed). -/
theorem messageHash_binding (C : Crypto) (c i s a p c' i' s' a' p' : Bytes)
    (hc : c.length < 2 ^ 32) (hi : i.length < 2 ^ 32) (hs : s.length < 2 ^ 32)
    (hc' : c'.length < 2 ^ 32) (hi' : i'.length < 2 ^ 32) (hs' : s'.length < 2 ^ 32)
    (ha : a.length = a'.length)
    (h : messageHash C c i s a p = messageHash C c' i' s' a' p') :
    (c = c' ∧ i = i' ∧ s = s' ∧ a = a' ∧ p = p') ∨ ∃ x y, x ≠ y ∧ C.H x = C.H y := by
  refine (C.eq_or_collision h).imp_left fun he => ?_
  unfold encMessageKey at he
  simp only [List.append_assoc] at he
  obtain ⟨e1, he1⟩ := nestBuf_append_inj he hc hc'
  obtain ⟨e2, he2⟩ := nestBuf_append_inj he1 hi hi'
  obtain ⟨e3, he3⟩ := nestBuf_append_inj he2 hs hs'
  obtain ⟨e4, e5⟩ := List.append_inj he3 ha
  exact ⟨e1, e2, e3, e4, e5⟩

/-- storage codec keeps the three states apart (for 32-byte hashes) -/
theorem state_codec_roundtrip (s : MsgState)
    (h : ∀ x, s = .approved x → x.length = 32) : decodeState (encodeState s) = some s := by
  cases s with
  | nonExistent | executed => decide
  | approved x =>
    have hl := h x rfl
    -- neither of the two other encodings is 32 bytes long
    have hne : x ≠ [] := by
      rintro rfl
      cases hl
    have hne2 : x ≠ Generated.messageExecuted := by
      rintro rfl
      cases hl
    simp [decodeState, encodeState, hl, hne, hne2]

/-- **The life cycle survives composition with every other contract**: in the world where the
    token service, governance, token managers and the gas service call the gateway (validation
    inside their own transactions, asynchronous steps delivered in any order), every operation
    of every schedule leaves an executed message executed and replaces an approval only by
    `executed`. -/
theorem lifecycle_in_the_whole_world (C : Crypto) (w : World) (ops : List World.Op) (k : Bytes × Bytes) :
    (w.gw.messages k = .executed → (World.run C w ops).gw.messages k = .executed) ∧
    (∀ h, w.gw.messages k = .approved h →
      (World.run C w ops).gw.messages k = .approved h ∨ (World.run C w ops).gw.messages k = .executed) :=
  World.run_life C ops w k

/-! ### Non-vacuity (test) -/
example : Trans .nonExistent (.approved [1]) ∧ Trans (.approved [1]) .executed :=
  ⟨Or.inr (Or.inl ⟨rfl, _, rfl⟩), Or.inr (Or.inr ⟨_, rfl, rfl⟩)⟩

end Axelar.Props.C02
