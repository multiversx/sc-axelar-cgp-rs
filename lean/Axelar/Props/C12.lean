/-
  C12 — Governance acts only on authenticated commands; operator proposals need approval.
-/
import Axelar.Proofs.GovCall
namespace Axelar.Props.C12
open Axelar Axelar.Governance Codec

/-- **Commands are authenticated and consumed.**  A successful `execute`: source chain and
    address are the configured governance source, the gateway held an approval addressed to
    the governance contract for exactly this (chain, id, source, keccak(payload)), and that
    approval is now executed — so the same command cannot be processed again. -/
theorem command_is_authenticated (C : Crypto) (st st' : State) (gw gw' : Gateway.State) (ctx : Ctx)
    (chain id src payload : Bytes) (e1 e2 : List Ev)
    (h : execute C st gw ctx chain id src payload = .ok (st', gw', e1, e2)) :
    chain = st.govChain ∧ src = st.govAddress ∧
    gw.messages (chain, id) = .approved (Gateway.messageHash C chain id src ctx.self (C.H payload)) ∧
    gw'.messages (chain, id) = .executed ∧
    (∀ e, execute C st' gw' ctx chain id src payload ≠ .ok e) := by
  obtain ⟨hc, hs, happ, rfl, _⟩ := execute_eq_ok h
  refine ⟨hc, hs, happ, if_pos rfl, fun _ he => ?_⟩
  -- a second success would have found the entry approved, and it is executed
  cases (if_pos rfl).symm.trans (execute_eq_ok he).2.2.1

/-- **Unauthenticated or malformed commands do nothing** (and, failing, consume nothing). -/
theorem forged_source_rejected (C : Crypto) (st : State) (gw : Gateway.State) (ctx : Ctx)
    (chain id src payload : Bytes) (h : chain ≠ st.govChain ∨ src ≠ st.govAddress) :
    execute C st gw ctx chain id src payload = .error .notGovernance :=
  if_pos (by simpa only [Bool.not_eq_true', Bool.and_eq_false_iff, beq_eq_false_iff_ne] using h)

theorem unapproved_command_rejected (C : Crypto) (st : State) (gw : Gateway.State) (ctx : Ctx)
    (chain id src payload : Bytes)
    (h : gw.messages (chain, id) ≠ .approved (Gateway.messageHash C chain id src ctx.self (C.H payload))) :
    ∃ e, execute C st gw ctx chain id src payload = .error e :=
  exists_error_of_ne_ok fun _ he => h (execute_eq_ok he).2.2.1

/-- **Time locks and operator approvals change only through** an authenticated `execute`, a
    dispatch (which clears one entry) or a failure callback (which restores it): every other
    endpoint of the contract leaves both maps untouched. -/
theorem locks_and_approvals_frame (C : Crypto) (st : State) (ctx : Ctx) (func : String)
    (args : List Bytes) (out : Out) (h : call C st ctx func args = .ok out)
    (h1 : func ≠ "executeProposal") (h2 : func ≠ "executeOperatorProposal") :
    out.st.eta = st.eta ∧ out.st.approvals = st.approvals := by
  cases call_ok h with
  | timeLock hf => exact absurd hf h1
  | operator hf => exact absurd hf h2
  | _ =>
    subst out
    exact ⟨rfl, rfl⟩

/-- **Operator dispatch**: only the current operator, only with an outstanding approval for
    exactly this (target, call data, value); the approval is consumed by the dispatch. -/
theorem operator_dispatch_needs_approval (C : Crypto) (st : State) (ctx : Ctx) (t cd : Bytes) (v : Nat)
    (out : Out) (h : executeOperatorProposal C st ctx t cd v = .ok out) :
    ctx.caller = st.operator ∧ st.approvals (proposalHash C t cd v) = true ∧
    out.st.approvals (proposalHash C t cd v) = false ∧ out.st.eta = st.eta ∧
    ∃ d, out.dispatch = some d ∧ d.operatorProposal = true ∧ d.hash = proposalHash C t cd v ∧
      d.target = t ∧ d.value = v := by
  obtain ⟨hc, ha, _, _, _, _, rfl⟩ := executeOperatorProposal_eq_ok h
  exact ⟨hc, ha, if_pos rfl, rfl, _, rfl, rfl, rfl, rfl, rfl⟩

/-- the failure callback restores the approval, the success callback does not; a cancel
    command removes it -/
theorem operator_approval_lifecycle (C : Crypto) (st : State) (d : Dispatch) (rs : List Bytes)
    (hd : d.operatorProposal = true) (now : Nat) (t cd : Bytes) (v eta : Nat) :
    (callback st d false rs).st.approvals d.hash = true ∧
    (callback st d true rs).st.approvals = st.approvals ∧
    (∀ st' evs, processCommand C st now .cancelOperator t cd v eta = .ok (st', evs) →
      st'.approvals (proposalHash C t cd v) = false) ∧
    (∀ st' evs, processCommand C st now .approveOperator t cd v eta = .ok (st', evs) →
      st'.approvals (proposalHash C t cd v) = true) := by
  refine ⟨?_, rfl, fun st' evs h => ?_, fun st' evs h => ?_⟩
  · rw [callback_approvals, if_pos ⟨rfl, hd⟩]
    exact if_pos rfl
  all_goals
    rw [processCommand_st h]
    exact if_pos rfl

/-- **The operator changes only at the request of the operator or of the contract itself.** -/
theorem operator_changes_gated (C : Crypto) (st : State) (ctx : Ctx) (func : String)
    (args : List Bytes) (out : Out) (h : call C st ctx func args = .ok out)
    (hne : out.st.operator ≠ st.operator) :
    func = "transferOperatorship" ∧ (ctx.caller = st.operator ∨ ctx.caller = ctx.self) := by
  cases call_ok h with
  | transferOperatorship hf hauth => exact ⟨hf, hauth⟩
  | timeLock _ he => exact absurd (dispatch_out (.inl he)).2.2.1 hne
  | operator _ he => exact absurd (dispatch_out (.inr he)).2.2.1 hne
  | _ =>
    subst out
    exact absurd rfl hne

/-- **Apart from refund credits, the contract's funds leave only through `withdraw`, and only
    when the caller is the contract itself (that is, through a dispatched proposal).** -/
theorem funds_leave_only_by_self (C : Crypto) (st : State) (ctx : Ctx) (func : String)
    (args : List Bytes) (out : Out) (h : call C st ctx func args = .ok out) (hs : out.sends ≠ []) :
    (func = "withdraw" ∧ ctx.caller = ctx.self) ∨ func = "withdrawRefundToken" := by
  cases call_ok h with
  | withdraw hf hself => exact .inl ⟨hf, hself⟩
  | withdrawRefundToken hf => exact .inr hf
  | timeLock _ he => exact absurd (dispatch_out (.inl he)).1 hs
  | operator _ he => exact absurd (dispatch_out (.inr he)).1 hs
  | _ =>
    subst out
    exact absurd rfl hs

/-! ### Non-vacuity (test) -/
example : (top decExecutePayload ([2] ++ List.replicate 32 7 ++ [0,0,0,1,9] ++ [0,0,0,0] ++ [0,0,0,0,0,0,0,5])).isSome = true := by
  decide +kernel

end Axelar.Props.C12
