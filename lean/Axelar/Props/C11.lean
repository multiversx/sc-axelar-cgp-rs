/-
  C11 — Governance time lock: only scheduled, matured, uncancelled proposals run, once.
  Full strength does NOT hold on the unchanged code (finding F3): see
  `cancel_between_dispatch_and_failure_is_lost`; the part that holds is stated as `…_partial`.
-/
import Axelar.Proofs.GovHistory
namespace Axelar.Props.C11
open Axelar Axelar.Governance Codec

/-- **Dispatch needs a set, matured eta and clears it.**  A successful `executeProposal` for
    (target, callData, value): the proposal's eta was non-zero and reached, it is cleared, and
    the registered call is exactly the decoded call data to that target with that value; the
    callback closure remembers the eta. -/
theorem dispatch_requires_matured_eta (C : Crypto) (st : State) (ctx : Ctx) (target callData : Bytes)
    (value : Nat) (out : Out) (h : executeProposal C st ctx target callData value = .ok out) :
    let hash := proposalHash C target callData value
    st.eta hash ≠ 0 ∧ st.eta hash ≤ ctx.now ∧ out.st.eta hash = 0 ∧
    (∀ h', h' ≠ hash → out.st.eta h' = st.eta h') ∧
    out.st.approvals = st.approvals ∧ out.st.refunds = st.refunds ∧
    ∃ name args minGas, top decCallData callData = some (name, args, minGas) ∧
      out.dispatch = some ⟨target, name, value, args, hash, st.eta hash, ctx.caller, anyPayment ctx, false⟩ := by
  obtain ⟨h0, hnow, name, args, minGas, hd, rfl⟩ := executeProposal_eq_ok h
  exact ⟨h0, hnow, if_pos rfl, fun h' hne => if_neg hne, rfl, rfl, name, args, minGas, hd, rfl⟩

/-- **Scheduling**: refused when the proposal is already scheduled; otherwise the stored eta is
    the requested one raised to at least `now + minimum delay`. -/
theorem schedule_effect (st : State) (now : Nat) (hash : Bytes) (eta : Nat) (st' : State) (eta' : Nat)
    (h : scheduleTimeLock st now hash eta = .ok (st', eta')) :
    st.eta hash = 0 ∧ eta' ≥ now + st.minDelay ∧ eta' ≥ eta ∧ st'.eta hash = eta' ∧
    (∀ h', h' ≠ hash → st'.eta h' = st.eta h') := by
  obtain ⟨h0, _, rfl, rfl⟩ := scheduleTimeLock_eq_ok h
  exact ⟨h0, Nat.le_max_right .., Nat.le_max_left .., if_pos rfl, fun h' hne => if_neg hne⟩

theorem already_scheduled_rejected (st : State) (now : Nat) (hash : Bytes) (eta : Nat)
    (h : st.eta hash ≠ 0) : scheduleTimeLock st now hash eta = .error .alreadyScheduled :=
  if_pos h

/-- **Outcome of the dispatched call**: on success nothing is restored (the proposal is gone);
    on failure the eta captured at dispatch time is written back. -/
theorem callback_effect (st : State) (d : Dispatch) (results : List Bytes) (hd : d.operatorProposal = false) :
    (callback st d true results).st = st ∧
    (callback st d false results).st.eta d.hash = d.eta ∧
    (∀ h', h' ≠ d.hash → (callback st d false results).st.eta h' = st.eta h') := by
  rw [callback_eta, if_pos ⟨rfl, hd⟩]
  exact ⟨rfl, if_pos rfl, fun h' hne => if_neg hne⟩

/-- **FINDING F3 (negation of "not cancelled since").**  A cancel command processed between the
    dispatch and the failure callback is lost: for ANY state in which P is scheduled and
    matured, after dispatch, cancel and a failed call, P is scheduled again with its old eta —
    so it can be dispatched once more although it was cancelled. -/
theorem cancel_between_dispatch_and_failure_is_lost (C : Crypto) (st : State) (ctx : Ctx)
    (target callData : Bytes) (value : Nat) (out : Out) (cancelEta : Nat)
    (h : executeProposal C st ctx target callData value = .ok out) :
    ∃ d stCancelled evs,
      out.dispatch = some d ∧
      processCommand C out.st ctx.now .cancel target callData value cancelEta = .ok (stCancelled, evs) ∧
      stCancelled.eta (proposalHash C target callData value) = 0 ∧
      (callback stCancelled d false []).st.eta (proposalHash C target callData value) =
        st.eta (proposalHash C target callData value) ∧
      st.eta (proposalHash C target callData value) ≠ 0 := by
  obtain ⟨h0, _, _, _, _, _, rfl⟩ := executeProposal_eq_ok h
  exact ⟨_, _, _, rfl, rfl, if_pos rfl, (callback_effect _ _ [] rfl).2.1, h0⟩

/-- **Partial (what does hold).**  If no command touches P between dispatch and callback, the
    failure callback restores exactly the state of P before the dispatch, and the success
    callback leaves P unscheduled. -/
theorem failure_restores_same_eta_partial (C : Crypto) (st : State) (ctx : Ctx)
    (target callData : Bytes) (value : Nat) (out : Out)
    (h : executeProposal C st ctx target callData value = .ok out) :
    ∃ d, out.dispatch = some d ∧
      (callback out.st d false []).st.eta (proposalHash C target callData value) =
        st.eta (proposalHash C target callData value) ∧
      (callback out.st d true []).st.eta (proposalHash C target callData value) = 0 := by
  obtain ⟨_, _, _, _, _, _, rfl⟩ := executeProposal_eq_ok h
  exact ⟨_, rfl, (callback_effect _ _ [] rfl).2.1, if_pos rfl⟩

/-- the encoding that is hashed determines target (of fixed length), call data and value -/
theorem encProposal_inj {t t' cd cd' : Bytes} {v v' : Nat}
    (ht : t.length = t'.length) (hcd : cd.length < 2 ^ 32) (hcd' : cd'.length < 2 ^ 32)
    (hv : (natBE v).length < 2 ^ 32) (hv' : (natBE v').length < 2 ^ 32)
    (h : encProposal t cd v = encProposal t' cd' v') : t = t' ∧ cd = cd' ∧ v = v' := by
  simp only [encProposal, nestBig, List.append_assoc] at h
  obtain ⟨e1, h1⟩ := List.append_inj h ht
  obtain ⟨e2, h2⟩ := nestBuf_append_inj h1 hcd hcd'
  obtain ⟨e3, _⟩ := nestBuf_append_inj (r := []) (r' := []) (by simpa using h2) hv hv'
  exact ⟨e1, e2, by simpa only [beNat_natBE] using congrArg beNat e3⟩

/-- **The proposal hash binds target, call data and value** (collision-or-equal). -/
theorem proposalHash_binding (C : Crypto) (t t' cd cd' : Bytes) (v v' : Nat)
    (ht : t.length = t'.length) (hcd : cd.length < 2 ^ 32) (hcd' : cd'.length < 2 ^ 32)
    (hv : (natBE v).length < 2 ^ 32) (hv' : (natBE v').length < 2 ^ 32)
    (h : proposalHash C t cd v = proposalHash C t' cd' v') :
    (t = t' ∧ cd = cd' ∧ v = v') ∨ ∃ a b, a ≠ b ∧ C.H a = C.H b :=
  (C.eq_or_collision h).imp_left (encProposal_inj ht hcd hcd' hv hv')

/-! ### Counting, over every history -/

/-- **Each scheduling authorises at most one successful dispatch** — for every history of the
    contract from deployment: any interleaving of authenticated commands (schedule, cancel,
    operator approvals), dispatches by anyone, callbacks of the dispatched calls (one per
    dispatch, in any order, succeeding or failing as the schedule dictates) and every other
    endpoint call.  Per proposal: (1 if it is currently scheduled) + (dispatches in flight) +
    (dispatches whose call succeeded) ≤ (number of accepted schedule commands).  In particular
    a proposal that was never scheduled is never live, never in flight and never executed — and
    this accounting survives finding F3 (a cancel lost in the window does not create an extra
    dispatch beyond the schedulings). -/
theorem successful_dispatches_never_exceed_schedulings (C : Crypto) (st0 : State) (h0 : ∀ x, st0.eta x = 0)
    (h : Hist) (hr : Reach C { st := st0 } h) (x : Bytes) :
    live h.st x + flying h.inflight x + h.succeeded x ≤ h.scheduled x :=
  reach_inv hr (init_inv h0) x

theorem never_scheduled_never_dispatched (C : Crypto) (st0 : State) (h0 : ∀ x, st0.eta x = 0)
    (h : Hist) (hr : Reach C { st := st0 } h) (x : Bytes) (hs : h.scheduled x = 0) :
    h.st.eta x = 0 ∧ h.succeeded x = 0 ∧ flying h.inflight x = 0 := by
  have := successful_dispatches_never_exceed_schedulings C st0 h0 h hr x
  rw [hs, Nat.le_zero, Nat.add_eq_zero_iff, Nat.add_eq_zero_iff] at this
  refine ⟨Decidable.byContradiction fun hne => ?_, this.2, this.1.2⟩
  exact Nat.one_ne_zero ((if_pos hne).symm.trans this.1.1)

/-! ### Non-vacuity (test): a scheduled, matured proposal exists -/
example : (finalizeTimeLock { eta := fun _ => 50 } 60 [1]).toOption.map (·.2) = some 50 := by
  simp [finalizeTimeLock, Except.toOption]

end Axelar.Props.C11
