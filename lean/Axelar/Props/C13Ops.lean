/-
  C13 at chain level — a successful `execute` TRANSACTION on the token service (any sender, any message type) came along a
  trusted route: the source address is the trusted address registered for the source chain and the payload passed the
  unwrap rules (hub-wrapped only from the hub chain and only for a hub-routed original chain; never unwrapped from the hub).
-/
import Axelar.Props.C13
import Axelar.Props.C08Ops
namespace Axelar.Props.C13
open Axelar Axelar.ItsW Axelar.Its Codec

theorem inbound_transaction_only_on_trusted_route (C : Crypto) (w w' : World) (sender its sc mid sa payload : Bytes)
    (rs : List Bytes) (evs : List Event) (pd : List PendDesc) (hk : w.kind its = some .its)
    (h : World.tx C w sender its "execute" 0 [] [sc, mid, sa, payload] = (w', .ok rs evs pd)) :
    isTrustedAddress w.its sc sa = true ∧ (getExecuteParams w.its sc payload).isSome = true := by
  obtain ⟨tt, he, _, _⟩ := Axelar.Props.C08.tx_execute C w w' sender its sc mid sa payload rs evs pd hk h
  exact inbound_processed_only_on_trusted_route C _ sc mid sa payload { w := w } tt () he

/-- … so a message from a source that is not the trusted one for its chain is refused as a transaction -/
theorem untrusted_source_transaction_refused (C : Crypto) (w : World) (sender its sc mid sa payload : Bytes)
    (hk : w.kind its = some .its) (hu : isTrustedAddress w.its sc sa = false)
    (w' : World) (rs : List Bytes) (evs : List Event) (pd : List PendDesc) :
    World.tx C w sender its "execute" 0 [] [sc, mid, sa, payload] ≠ (w', .ok rs evs pd) := by
  intro h
  cases hu.symm.trans (inbound_transaction_only_on_trusted_route C w w' sender its sc mid sa payload rs evs pd hk h).1

end Axelar.Props.C13
