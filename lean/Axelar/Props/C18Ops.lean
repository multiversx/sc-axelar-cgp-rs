/-
  C18 at chain level — an inbound deploy-token message as TRANSACTIONS of the composed world: every successful `execute`
  transaction for such a message needed the gateway approval of exactly this message; the first one (no manager yet) leaves
  the gateway untouched, the second one (manager present) leaves the message executed; and once it is executed, in every
  world any history leads to, no `execute` transaction for it succeeds — one issuance per message.
-/
import Axelar.Props.C18
import Axelar.Props.C08Ops
namespace Axelar.Props.C18
open Axelar Axelar.ItsW Axelar.Its Codec

/-- **A deploy-token message, one transaction**: it needed the approval of exactly this message addressed to the service;
    with no manager for the token id yet the gateway is left untouched (the approval is NOT consumed), with a manager present
    the message is executed afterwards. -/
theorem deploy_message_transaction (C : Crypto) (w w' : World) (sender its sc mid sa payload : Bytes) (egld : Nat)
    (rs : List Bytes) (evs : List Event) (pd : List PendDesc) (oc inner : Bytes) (d : Abi.Deploy)
    (hk : w.kind its = some .its) (hkgw : w.kind w.its.gateway = some .gateway)
    (hg : getExecuteParams w.its sc payload = some (Generated.MESSAGE_TYPE_DEPLOY_INTERCHAIN_TOKEN, oc, inner))
    (hd : Abi.Deploy.decode inner = .ok d)
    (h : World.tx C w sender its "execute" egld [] [sc, mid, sa, payload] = (w', .ok rs evs pd)) :
    w.gw.messages (sc, mid) = .approved (Gateway.messageHash C sc mid sa its (C.H payload)) ∧
    ((w.its.tmAddress d.tokenId = [] ∧ w'.gw = w.gw) ∨
     (w.its.tmAddress d.tokenId ≠ [] ∧ w'.gw.messages (sc, mid) = .executed)) := by
  obtain ⟨w1, tt, _, hb, he, rfl, _⟩ := Axelar.Props.C08.tx_execute_paid C w w' sender its sc mid sa payload egld rs evs pd hk h
  -- the payment moved balances only: `execute` runs with the same service storage, gateway and contract kinds
  obtain ⟨a, rfl⟩ := hb.exists_accts
  exact deploy_message_step C _ sc mid sa _ inner _ tt d hd hkgw (execute_deploy he hg)

/-- **One issuance per message, over whole transactions and every history**: once the message is executed, after ANY list
    of operations of the composed world no `execute` transaction for it (with or without EGLD attached) — any sender, source address or
    deploy payload — succeeds. -/
theorem executed_deploy_message_refused_in_every_history (C : Crypto) (w : World) (ops : List World.Op)
    (sender its sc mid sa payload oc inner : Bytes) (egld : Nat) (d : Abi.Deploy)
    (hex : w.gw.messages (sc, mid) = .executed)
    (hk : (World.run C w ops).kind its = some .its)
    (hkgw : (World.run C w ops).kind (World.run C w ops).its.gateway = some .gateway)
    (hg : getExecuteParams (World.run C w ops).its sc payload =
      some (Generated.MESSAGE_TYPE_DEPLOY_INTERCHAIN_TOKEN, oc, inner))
    (hd : Abi.Deploy.decode inner = .ok d)
    (w' : World) (rs : List Bytes) (evs : List Event) (pd : List PendDesc) :
    World.tx C (World.run C w ops) sender its "execute" egld [] [sc, mid, sa, payload] ≠ (w', .ok rs evs pd) := by
  intro h
  cases (World.run_executed C ops hex).symm.trans (deploy_message_transaction C (World.run C w ops) w' sender
    its sc mid sa payload egld rs evs pd oc inner d hk hkgw hg hd h).1

/-! ### Non-vacuity (test): the two message types are distinct selectors -/
example : (Generated.MESSAGE_TYPE_DEPLOY_INTERCHAIN_TOKEN == Generated.MESSAGE_TYPE_INTERCHAIN_TRANSFER) = false := by decide

end Axelar.Props.C18
