/-
  C10 — custody over every history of a token manager: a lock/unlock manager's holdings always equal
  everything taken minus everything given; a mint/burn manager holds nothing and changes the supply by exactly
  the given, taken, directly minted and directly burned amounts.
-/
import Axelar.Props.C10
import Axelar.Props.C09
namespace Axelar.Props.C10
open Axelar Axelar.TokenManager Codec

/-- amount of the ESDT `t` (nonce 0) attached to a call: it is in the manager's balance when the endpoint runs -/
def received (t : Bytes) (ctx : Ctx) : Nat :=
  (ctx.esdt.map fun (x : Bytes × Nat × Nat) => if x.1 = t ∧ x.2.1 = 0 then x.2.2 else 0).sum

/-- net change of the supply of `t` caused by a list of effects (local mint − local burn) -/
def supplyEffect (t : Bytes) : List Eff → Int
  | [] => 0
  | .send _ _ _ :: r => supplyEffect t r
  | .mint tok amt :: r => (if tok = t then (amt : Int) else 0) + supplyEffect t r
  | .burn tok amt :: r => (if tok = t then -(amt : Int) else 0) + supplyEffect t r

/-- total of `t` sent out by a list of effects -/
def sentOut (t : Bytes) : List Eff → Nat
  | [] => 0
  | .send _ tok amt :: r => (if tok = some t then amt else 0) + sentOut t r
  | .mint _ _ :: r => sentOut t r
  | .burn _ _ :: r => sentOut t r

/-- a token manager with ghost accounting (never read by the contract): the manager's own holdings of its
    token as moved by its endpoint calls, the net supply change it caused, and the running totals of the
    amounts taken, given, directly minted and directly burned -/
structure Custody where
  st : State
  holdings : Int := 0
  minted : Int := 0
  taken : Nat := 0
  given : Nat := 0
  directMint : Nat := 0
  directBurn : Nat := 0

/-- the ghost accounting after a successful call with outcome `out` -/
def next (t : Bytes) (h : Custody) (c : C09.TCall) (out : Out) : Custody :=
  { st := out.st,
    holdings := h.holdings + received t c.ctx + netEffect t out.effects,
    minted := h.minted + supplyEffect t out.effects,
    taken := h.taken + (if c.func = "takeToken" then received t c.ctx else 0),
    given := h.given + (if c.func = "giveToken" then sentOut t out.effects else 0),
    directMint := h.directMint + (if c.func = "mint" then sentOut t out.effects else 0),
    directBurn := h.directBurn + (if c.func = "burn" then received t c.ctx else 0) }

def stepCustody (t : Bytes) (h : Custody) (c : C09.TCall) : Custody :=
  match call h.st c.ctx c.func c.args with
  | .error _ => h
  | .ok out => next t h c out

def runCustody (t : Bytes) (h : Custody) (cs : List C09.TCall) : Custody := cs.foldl (stepCustody t) h

/-- a successful call is one of the three payable endpoints, or carries no payment at all -/
theorem call_payment (st : State) (ctx : Ctx) (func : String) (args : List Bytes) (out : Out)
    (h : call st ctx func args = .ok out) :
    (func = "takeToken" ∧ takeToken st ctx = .ok out) ∨ (func = "burn" ∧ burn st ctx = .ok out) ∨
    (func = "deployInterchainToken" ∧ ∃ m n s d, deployInterchainToken st ctx m n s d = .ok out) ∨
    notPayable ctx = true := by
  cases call_ok h with
  | takeToken hf ht => exact .inl ⟨hf, ht⟩
  | burn hf hb => exact .inr (.inl ⟨hf, hb⟩)
  | deploy hf hd => exact .inr (.inr (.inl ⟨hf, _, _, _, _, hd⟩))
  | giveToken _ hp | setFlowLimit _ hp | mint _ hp | role _ hp | view hp => exact .inr (.inr (.inr hp))

theorem received_of_no_esdt {t : Bytes} {ctx : Ctx} (h : ctx.esdt = []) : received t ctx = 0 := by
  simp [received, h]

theorem received_of_notPayable {t : Bytes} {ctx : Ctx} (h : notPayable ctx = true) : received t ctx = 0 := by
  simp only [notPayable, Bool.and_eq_true, List.isEmpty_iff] at h
  exact received_of_no_esdt h.2

/-- `require_correct_token` accepts exactly one fungible payment in the manager's token -/
theorem received_of_correct {st : State} {ctx : Ctx} {t : Bytes} {tok : Tok} {amount : Nat}
    (h : requireCorrectToken st ctx = .ok (tok, amount)) (ht : tokOfBytes st.tokenIdentifier = some t) :
    tok = some t ∧ received t ctx = amount := by
  obtain ⟨htk, he⟩ := requireCorrectToken_eq_ok h
  cases htk.trans ht
  obtain ⟨_, hn, _⟩ | ⟨_, hes, _, ⟨rfl⟩⟩ := egldOrSingleFungibleEsdt_eq_ok he
  · cases hn
  · simp [received, hes]

/-- **How a successful call moves the manager's token** `t` (an ESDT), as payment received and effects: nothing
    at all; a lock/unlock manager keeps what `takeToken` brings and sends out what `giveToken` names; a mint/burn
    manager burns whatever comes in (`takeToken`, and `burn` on a native one) and mints whatever it sends out
    (`giveToken`, and `mint` on a native one). -/
theorem call_ledger {st : State} {ctx : Ctx} {func : String} {args : List Bytes} {out : Out} {t : Bytes}
    (h : call st ctx func args = .ok out) (ht : tokOfBytes st.tokenIdentifier = some t) :
    (received t ctx = 0 ∧ out.effects = []) ∨
    (func = "takeToken" ∧ isMintBurnKind st.implType = false ∧ out.effects = []) ∨
    (∃ d a, func = "giveToken" ∧ isMintBurnKind st.implType = false ∧ received t ctx = 0 ∧
      out.effects = [.send d (some t) a]) ∨
    ((func = "takeToken" ∨ func = "burn") ∧ isMintBurnKind st.implType = true ∧
      out.effects = [.burn t (received t ctx)]) ∨
    (∃ d a, (func = "giveToken" ∨ func = "mint") ∧ isMintBurnKind st.implType = true ∧ received t ctx = 0 ∧
      out.effects = [.mint t a, .send d (some t) a]) := by
  cases call_ok h with
  | takeToken hf htk =>
    obtain ⟨_, _, tok, amount, hreq, _, _, hcase⟩ := takeToken_eq_ok htk
    obtain ⟨rfl, rfl⟩ := received_of_correct hreq ht
    rcases hcase with ⟨hk, _, ⟨rfl⟩, he⟩ | ⟨hk, he⟩
    · exact .inr (.inr (.inr (.inl ⟨.inl hf, hk, he⟩)))
    · exact .inr (.inl ⟨hf, hk, he⟩)
  | burn hf hb =>
    obtain ⟨h0, _, _, _, _, t', amount, hreq, he⟩ := burn_eq_ok hb
    obtain ⟨⟨rfl⟩, rfl⟩ := received_of_correct hreq ht
    exact .inr (.inr (.inr (.inl ⟨.inr hf, congrArg isMintBurnKind h0, he⟩)))
  | deploy _ hd =>
    obtain ⟨hes, _, _, _, _, he⟩ := deployInterchainToken_eq_ok hd
    exact .inl ⟨received_of_no_esdt hes, he⟩
  | giveToken hf hp hg =>
    obtain ⟨_, _, _, _, hcase⟩ := giveToken_eq_ok hg
    rw [ht] at hcase
    rcases hcase with ⟨hk, _, ⟨rfl⟩, he⟩ | ⟨hk, he⟩
    · exact .inr (.inr (.inr (.inr ⟨_, _, .inl hf, hk, received_of_notPayable hp, he⟩)))
    · exact .inr (.inr (.inl ⟨_, _, hf, hk, received_of_notPayable hp, he⟩))
  | setFlowLimit _ hp hs => exact .inl ⟨received_of_notPayable hp, (setFlowLimit_eq_ok hs).2.2.1⟩
  | mint hf hp hm =>
    obtain ⟨h0, _, _, _, _, t', htt, he⟩ := mint_eq_ok hm
    cases ht.symm.trans htt
    exact .inr (.inr (.inr (.inr ⟨_, _, .inr hf, congrArg isMintBurnKind h0, received_of_notPayable hp, he⟩)))
  | role _ hp hro =>
    obtain ⟨_, _, he⟩ := roleOut_eq_ok hro
    exact .inl ⟨received_of_notPayable hp, he⟩
  | view hp hv => exact .inl ⟨received_of_notPayable hp, (view_eq_ok hv).2.1⟩

structure CustodyInv (t : Bytes) (st0 : State) (h : Custody) : Prop where
  kind : h.st.implType = st0.implType
  token : h.st.tokenIdentifier = st0.tokenIdentifier
  /-- conservation, whatever the kind: holdings − supply change = taken − given − directly minted + directly burned -/
  conserve : h.holdings - h.minted = (h.taken : Int) - h.given - h.directMint + h.directBurn
  /-- a lock/unlock manager never touches the supply -/
  lock : isMintBurnKind st0.implType = false → h.minted = 0 ∧ h.directMint = 0 ∧ h.directBurn = 0
  /-- a mint/burn manager holds nothing -/
  mb : isMintBurnKind st0.implType = true → h.holdings = 0

/-- The invariant survives every call (accepted or not).  By `call_ledger` the accepted ones add the same amount to
    both sides of the conservation equation, and touch the supply only on a mint/burn manager, the holdings only
    on a lock/unlock one. -/
theorem custodyInv_step {t : Bytes} {st0 : State} (ht : tokOfBytes st0.tokenIdentifier = some t) {h : Custody}
    (c : C09.TCall) (hi : CustodyInv t st0 h) : CustodyInv t st0 (stepCustody t h c) := by
  unfold stepCustody
  cases hc : call h.st c.ctx c.func c.args with
  | error e => exact hi
  | ok out =>
    obtain ⟨_, k1, _, k2⟩ := call_identity hc
    have kind := k1.trans hi.kind
    have token := k2.trans hi.token
    have hcons := hi.conserve
    have hled := call_ledger hc (hi.token ▸ ht)
    rw [hi.kind] at hled
    -- in each shape `simp` computes the new accounting once, for all fields of the invariant
    rcases hled with ⟨hr, he⟩ | ⟨hf, hk, he⟩ | ⟨d, a, hf, hk, hr, he⟩ | ⟨hf, hk, he⟩ | ⟨d, a, hf, hk, hr, he⟩
    · -- nothing comes in, nothing goes out
      simp only [next, he, hr, netEffect, supplyEffect, sentOut, ite_self, Int.add_zero, Nat.add_zero,
        Int.natCast_zero]
      exact ⟨kind, token, hcons, hi.lock, hi.mb⟩
    · -- lock: the payment stays, booked as taken
      simp only [next, hf, he, netEffect, supplyEffect, String.reduceEq, reduceIte, Int.add_zero, Nat.add_zero]
      refine ⟨kind, token, ?_, hi.lock, fun hm => nomatch hk.symm.trans hm⟩
      dsimp only
      omega
    · -- unlock: what is sent leaves the holdings, booked as given
      simp only [next, hf, he, hr, netEffect, supplyEffect, sentOut, String.reduceEq, reduceIte, Int.add_zero,
        Nat.add_zero, Int.natCast_zero]
      refine ⟨kind, token, ?_, hi.lock, fun hm => nomatch hk.symm.trans hm⟩
      dsimp only
      omega
    · -- a mint/burn manager burns what comes in, booked as taken or as directly burned
      rcases hf with hf | hf
      all_goals
        simp only [next, hf, he, netEffect, supplyEffect, String.reduceEq, reduceIte, Int.add_zero, Nat.add_zero,
          Int.add_neg_cancel_right]
        refine ⟨kind, token, ?_, fun hl => (nomatch hk.symm.trans hl), hi.mb⟩
        dsimp only
        omega
    · -- and mints what it sends, booked as given or as directly minted
      rcases hf with hf | hf
      all_goals
        simp only [next, hf, he, hr, netEffect, supplyEffect, sentOut, String.reduceEq, reduceIte, Int.add_zero,
          Nat.add_zero, Int.natCast_zero, Int.add_right_neg]
        refine ⟨kind, token, ?_, fun hl => (nomatch hk.symm.trans hl), hi.mb⟩
        dsimp only
        omega

/-- the invariant step (`custodyInv_step`, which shows that `hset` is not needed) -/
theorem step_custodyInv (t : Bytes) (st0 : State) (hset : st0.tokenIdentifier ≠ [])
    (ht : tokOfBytes st0.tokenIdentifier = some t) (h : Custody) (c : C09.TCall)
    (hi : CustodyInv t st0 h) : CustodyInv t st0 (stepCustody t h c) :=
  custodyInv_step ht c hi

theorem custodyInv_init {t : Bytes} {st0 : State} : CustodyInv t st0 { st := st0 } :=
  ⟨rfl, rfl, by simp, fun _ => ⟨rfl, rfl, rfl⟩, fun _ => rfl⟩

theorem custodyInv_run {t : Bytes} {st0 : State} (ht : tokOfBytes st0.tokenIdentifier = some t)
    (cs : List C09.TCall) {h : Custody} (hi : CustodyInv t st0 h) : CustodyInv t st0 (runCustody t h cs) := by
  induction cs generalizing h with
  | nil => exact hi
  | cons c cs ih => exact ih (custodyInv_step ht c hi)

/-- **A lock/unlock manager's holdings always equal everything taken minus everything given** — for every
    history of calls to the manager (any callers, endpoints, arguments, payments, times), from the moment
    its token is recorded.  `holdings` is the manager's own balance of its token as moved by those calls
    (payments attached to accepted calls come in, `send` / `burn` effects go out), starting from zero. -/
theorem lock_unlock_holdings_over_histories (t : Bytes) (st0 : State) (hset : st0.tokenIdentifier ≠ [])
    (ht : tokOfBytes st0.tokenIdentifier = some t) (hk : isMintBurnKind st0.implType = false)
    (cs : List C09.TCall) :
    (runCustody t { st := st0 } cs).holdings =
      ((runCustody t { st := st0 } cs).taken : Int) - (runCustody t { st := st0 } cs).given ∧
    (runCustody t { st := st0 } cs).minted = 0 := by
  have hi := custodyInv_run ht cs custodyInv_init
  obtain ⟨hm, hdm, hdb⟩ := hi.lock hk
  have hc := hi.conserve
  rw [hm, hdm, hdb] at hc
  exact ⟨by simpa using hc, hm⟩

/-- **A mint/burn manager holds nothing and changes the supply by exactly the given and taken amounts** (plus,
    on a native manager, what its minters mint and burn directly) — for every history. -/
theorem mint_burn_supply_over_histories (t : Bytes) (st0 : State) (hset : st0.tokenIdentifier ≠ [])
    (ht : tokOfBytes st0.tokenIdentifier = some t) (hk : isMintBurnKind st0.implType = true)
    (cs : List C09.TCall) :
    (runCustody t { st := st0 } cs).holdings = 0 ∧
    (runCustody t { st := st0 } cs).minted =
      ((runCustody t { st := st0 } cs).given : Int) - (runCustody t { st := st0 } cs).taken +
        (runCustody t { st := st0 } cs).directMint - (runCustody t { st := st0 } cs).directBurn := by
  have hi := custodyInv_run ht cs custodyInv_init
  have hh := hi.mb hk
  have hc := hi.conserve
  exact ⟨hh, by omega⟩

/-- direct mint / burn never happen on a manager that is not native -/
theorem direct_mint_burn_only_native (t : Bytes) (st0 : State) (hset : st0.tokenIdentifier ≠ [])
    (ht : tokOfBytes st0.tokenIdentifier = some t) (hk : isMintBurnKind st0.implType = false)
    (cs : List C09.TCall) :
    (runCustody t { st := st0 } cs).directMint = 0 ∧ (runCustody t { st := st0 } cs).directBurn = 0 :=
  ((custodyInv_run ht cs custodyInv_init).lock hk).2

/-! ### Non-vacuity (tests): the hypotheses are satisfiable — a lock/unlock manager (type 2) and a native one (type 0)
    with a recorded ESDT token; the per-call deltas on a concrete take / give pair -/
example : isMintBurnKind 2 = false ∧ isMintBurnKind 0 = true ∧ ([84] : Bytes) ≠ [] := by decide
example : received [84] ⟨[1], [9], 0, 0, [([84], 0, 5)]⟩ = 5 ∧
    netEffect [84] [.send [7] (some [84]) 3] = -3 ∧ sentOut [84] [.send [7] (some [84]) 3] = 3 ∧
    supplyEffect [84] [.mint [84] 4, .send [7] (some [84]) 4] = 4 := by decide

end Axelar.Props.C10
