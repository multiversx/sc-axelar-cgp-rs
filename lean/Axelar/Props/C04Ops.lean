/-
  C04 at chain level — an inbound transfer without data as ONE transaction of the composed world (`World.tx … "execute"`):
  it needed the gateway approval of exactly this message addressed to the service and the trusted source; it leaves the
  message executed; the recipient named in the payload received exactly the payload amount of the manager's token, out of the
  manager's custody (or minted), and nothing else moved for any account or asset.
-/
import Axelar.Props.C04
import Axelar.Props.C08Ops
namespace Axelar.Props.C04
open Axelar Axelar.ItsW Axelar.Its Codec

theorem release_as_a_transaction (C : Crypto) (w w' : World) (sender its sc mid sa payload : Bytes)
    (rs : List Bytes) (evs : List Event) (pd : List PendDesc) (oc inner : Bytes) (p : Abi.Transfer)
    (tm : Bytes) (st : TokenManager.State)
    (hk : w.kind its = some .its)
    (hg : getExecuteParams w.its sc payload = some (Generated.MESSAGE_TYPE_INTERCHAIN_TRANSFER, oc, inner))
    (hd : Abi.Transfer.decode inner = .ok p) (hdata : p.data = [])
    (htm : w.its.tmAddress p.tokenId = tm) (hst : w.tms tm = st)
    (hkgw : w.kind w.its.gateway = some .gateway) (hktm : w.kind tm = some .tokenManager)
    (h : World.tx C w sender its "execute" 0 [] [sc, mid, sa, payload] = (w', .ok rs evs pd)) :
    isTrustedAddress w.its sc sa = true ∧
    w.gw.messages (sc, mid) = .approved (Gateway.messageHash C sc mid sa its (C.H payload)) ∧
    w'.gw.messages (sc, mid) = .executed ∧
    its = st.service ∧
    World.Led w w' (giveOut st tm p.amount)
      (World.pt p.destinationAddress (TokenManager.tokOfBytes st.tokenIdentifier) p.amount) := by
  obtain ⟨tt, he, rfl, _⟩ := Axelar.Props.C08.tx_execute C w w' sender its sc mid sa payload rs evs pd hk h
  have hpr := (execute_transfer he hg).2
  have hc := release_consumes_the_approval C _ oc sc mid sa _ inner _ tt p hd hdata hkgw hpr
  have hl := release_pays_exactly_the_amount C _ oc sc mid sa _ inner _ tt p hd hdata tm st htm hst hkgw hktm hpr
  exact ⟨(execute_eq_some he).2.2.1, hc.1, hc.2, hl⟩

/-- … and in the world it leaves behind (and, by `executed_message_stays_executed`, in every world any history leads to
    from there) the same message releases nothing: `execute` for it does not succeed as a transaction, whoever sends it. -/
theorem executed_message_is_refused_as_a_transaction (C : Crypto) (w : World) (sender its sc mid sa payload : Bytes)
    (oc inner : Bytes) (p : Abi.Transfer)
    (hk : w.kind its = some .its) (hkgw : w.kind w.its.gateway = some .gateway)
    (hg : getExecuteParams w.its sc payload = some (Generated.MESSAGE_TYPE_INTERCHAIN_TRANSFER, oc, inner))
    (hd : Abi.Transfer.decode inner = .ok p) (hdata : p.data = [])
    (hex : w.gw.messages (sc, mid) = .executed) (w' : World) (rs : List Bytes) (evs : List Event) (pd : List PendDesc) :
    World.tx C w sender its "execute" 0 [] [sc, mid, sa, payload] ≠ (w', .ok rs evs pd) := by
  intro hr
  obtain ⟨tt, he, _, _⟩ := Axelar.Props.C08.tx_execute C w w' sender its sc mid sa payload rs evs pd hk hr
  cases hex.symm.trans (release_consumes_the_approval C _ oc sc mid sa _ inner _ tt p hd hdata hkgw
    (execute_transfer he hg).2).1

/-- **At most once, over whole transactions and every history.**  After the releasing transaction, run ANY list of operations
    of the composed world (transactions by anyone to any contract, deliveries, callbacks, time): in the world reached, an
    `execute` transaction for the same message — by any sender, with any source address and any payload that is a transfer
    without data — does not succeed.  So the total ever released for one message is its amount. -/
theorem no_second_release_over_transactions (C : Crypto) (w w' : World) (sender its sc mid sa payload : Bytes)
    (rs : List Bytes) (evs : List Event) (pd : List PendDesc) (oc inner : Bytes) (p : Abi.Transfer)
    (tm : Bytes) (st : TokenManager.State)
    (hk : w.kind its = some .its)
    (hg : getExecuteParams w.its sc payload = some (Generated.MESSAGE_TYPE_INTERCHAIN_TRANSFER, oc, inner))
    (hd : Abi.Transfer.decode inner = .ok p) (hdata : p.data = [])
    (htm : w.its.tmAddress p.tokenId = tm) (hst : w.tms tm = st)
    (hkgw : w.kind w.its.gateway = some .gateway) (hktm : w.kind tm = some .tokenManager)
    (h : World.tx C w sender its "execute" 0 [] [sc, mid, sa, payload] = (w', .ok rs evs pd))
    (ops : List World.Op) (sender2 sa2 payload2 oc2 inner2 : Bytes) (p2 : Abi.Transfer)
    (hk2 : (World.run C w' ops).kind its = some .its)
    (hkgw2 : (World.run C w' ops).kind (World.run C w' ops).its.gateway = some .gateway)
    (hg2 : getExecuteParams (World.run C w' ops).its sc payload2 =
      some (Generated.MESSAGE_TYPE_INTERCHAIN_TRANSFER, oc2, inner2))
    (hd2 : Abi.Transfer.decode inner2 = .ok p2) (hdata2 : p2.data = [])
    (w'' : World) (rs2 : List Bytes) (evs2 : List Event) (pd2 : List PendDesc) :
    World.tx C (World.run C w' ops) sender2 its "execute" 0 [] [sc, mid, sa2, payload2] ≠ (w'', .ok rs2 evs2 pd2) := by
  have hex := (release_as_a_transaction C w w' sender its sc mid sa payload rs evs pd oc inner p tm st hk hg hd hdata htm hst
    hkgw hktm h).2.2.1
  exact executed_message_is_refused_as_a_transaction C (World.run C w' ops) sender2 its sc mid sa2 payload2 oc2 inner2 p2
    hk2 hkgw2 hg2 hd2 hdata2 (executed_message_stays_executed C w' ops (sc, mid) hex) w'' rs2 evs2 pd2

/-! ### Non-vacuity (test) -/
example : (Generated.MESSAGE_TYPE_INTERCHAIN_TRANSFER == Generated.MESSAGE_TYPE_INTERCHAIN_TRANSFER) = true := by decide

end Axelar.Props.C04
