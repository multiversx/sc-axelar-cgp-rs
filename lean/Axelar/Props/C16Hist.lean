/-
  C16 — the credits ledger over every history.
-/
import Axelar.Proofs.GovLedger
namespace Axelar.Props.C16
open Axelar Axelar.Governance Codec

/-- **At any time the outstanding credits equal what callers attached to failed dispatches minus what they
    have withdrawn** — for every history: any sequence of endpoint calls (by anybody, with any arguments and
    payments), authenticated commands (against any gateway state) and callbacks of the dispatches in
    flight (each once, in any order, with any outcome), starting from a contract with no credits.
    `failedAttached` adds, at each failure callback, what the dispatching transaction's caller had attached
    (recorded when the dispatch was registered); `withdrawn` adds what each withdrawal sent out. -/
theorem credits_ledger_over_histories (C : Crypto) (st0 : State) (h0 : ∀ k, st0.refunds k = 0)
    (ops : List GOp) (key : RefundKey) :
    (runLed C { st := st0 } ops).st.refunds key + (runLed C { st := st0 } ops).withdrawn key =
      (runLed C { st := st0 } ops).failedAttached key :=
  (run_ledInv C ops (init_ledInv h0)).eq key

/-- **A withdrawal can never pay more than was credited and not yet withdrawn**: what a user has withdrawn in a
    token never exceeds what that user attached to failed dispatches in that token. -/
theorem withdrawn_never_exceeds_failed_attachments (C : Crypto) (st0 : State) (h0 : ∀ k, st0.refunds k = 0)
    (ops : List GOp) (key : RefundKey) :
    (runLed C { st := st0 } ops).withdrawn key ≤ (runLed C { st := st0 } ops).failedAttached key :=
  Nat.le_of_add_left_le (Nat.le_of_eq (credits_ledger_over_histories C st0 h0 ops key))

/-- every dispatch in flight remembers exactly the caller and payments of the transaction that registered it -/
theorem inflight_dispatches_remember_their_payments (C : Crypto) (st0 : State) (ops : List GOp)
    (h0 : ∀ k, st0.refunds k = 0) :
    ∀ p ∈ (runLed C { st := st0 } ops).inflight, p.1.payments = p.2.2 ∧ p.1.caller = p.2.1 :=
  (run_ledInv C ops (init_ledInv h0)).mem

/-! ### Non-vacuity (test): a failed dispatch with 7 EGLD attached is credited -/
example :
    let C : Crypto := ⟨fun b => b, fun _ _ _ => true⟩
    let st0 : State := { gateway := [1], minDelay := 0, govChain := [1], govAddress := [1], operator := [9] }
    let d : Dispatch := ⟨[5], [], 0, [], [7], 3, [8], .egld 7, false⟩
    let h1 : Led := { st := st0, inflight := [(d, [8], .egld 7)] }
    let h2 := runLed C h1 [.cb d false []]
    h2.failedAttached ([8], strBytes "EGLD", 0) = 7 ∧ h2.st.refunds ([8], strBytes "EGLD", 0) = 7 ∧
    h2.inflight = [] := by
  decide +kernel

end Axelar.Props.C16
