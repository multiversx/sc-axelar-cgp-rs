/-
  C17 — a user operation seen as a whole: the first transaction and, whatever the schedule puts in between,
  its callback.  The service's EGLD balance goes up by the attached gas value in the first transaction
  and down by exactly the same amount in the callback (when the callback succeeds — the failing callbacks
  are findings F2a / F2b, refuted in C17.lean).  For `registerTokenMetadata`, for the canonical remote
  deployment, and for the factory's `deployRemoteInterchainToken(salt, chain)` (no minter).
-/
import Axelar.Props.C17
namespace Axelar.Props.C17
open Axelar Axelar.ItsW Axelar.Its Codec

/-- **First transaction of a metadata registration**: the sender's EGLD goes to the service — for every account
    and asset nothing else moves — and exactly one lookup is registered, remembering that amount as the gas
    value and the sender as the one to refund. -/
theorem metadata_first_transaction (C : Crypto) (w w' : World) (sender its tok : Bytes) (egld : Nat)
    (esdt : List (Bytes × Nat × Nat)) (rs : List Bytes) (evs : List Event) (pd : List PendDesc)
    (hk : w.kind its = some .its)
    (h : World.tx C w sender its "registerTokenMetadata" egld esdt [tok] = (w', .ok rs evs pd)) :
    esdt = [] ∧
    World.Led w w' (World.pt sender none egld) (World.pt its none egld) ∧
    w'.pending = w.pending ++
      [⟨⟨w.nextPending, Axelar.esdtSystemSc, "getTokenProperties", 0, [], [tok]⟩, its,
        .itsMetadata its tok egld sender, none⟩] := by
  obtain ⟨a, t', hp, hc, rfl, -, -⟩ := World.tx_its h hk
  rw [call_registerTokenMetadata, getI_bind] at hc
  obtain ⟨hoe, hc⟩ := ite_fail_eq_some.mp hc
  obtain ⟨hc, -⟩ := unit_eq_some.mp hc
  obtain ⟨-, ⟨⟩⟩ := require_bind.mp hc
  cases World.esdt_nil_of_onlyEgld hoe
  -- registering a pending call moves nothing
  exact ⟨rfl, (World.Moves.of_pay (tok := none) hp).led.congr rfl rfl, rfl⟩

/-- **The callback of a metadata lookup, at chain level**: whenever the callback transaction of a delivered lookup
    succeeds — whatever the reply was and whatever happened since the first transaction — the service's EGLD
    balance goes down by exactly the gas value the lookup remembers (to the caller or to the gas service:
    `metadata_callback_moves_exactly_the_gas_value`). -/
theorem metadata_callback_at_chain_level (C : Crypto) (w w' : World) (id : Nat) (p : Pending)
    (its tok : Bytes) (gas : Nat) (caller : Bytes) (okFlag : Bool) (vals rs : List Bytes) (evs : List Event)
    (pd : List PendDesc)
    (hp : World.findPending w.pending id = some p) (hk : p.kind = .itsMetadata its tok gas caller)
    (hr : p.result = some (okFlag, vals))
    (hkgs : w.kind w.its.gasService = some .gasService) (hkgw : w.kind w.its.gateway = some .gateway)
    (hc : caller ≠ its) (hg : w.its.gasService ≠ its)
    (h : World.callback C w id = (w', .ok rs evs pd)) :
    World.egld w' its + gas = World.egld w its := by
  obtain ⟨t', hm, rfl⟩ := World.callback_itsMetadata h hp hr hk
  -- the callback runs in `withoutPending w id`, whose kinds and service storage are those of `w` by reduction
  exact metadata_callback_service_keeps_nothing C (World.itsCtx (World.withoutPending w id) esdtSystemSc its 0 []) tok gas
    caller okFlag vals { w := World.withoutPending w id } t' hkgs hkgw hc hg hm

/-- **The whole operation.**  A metadata registration by `sender` with `egld` attached: the first transaction
    puts exactly `egld` into the service and registers the lookup; and in *any* later world `w2` in which that
    lookup has been delivered (any reply, any operations in between — the schedule is arbitrary), a successful
    callback takes exactly `egld` out of the service again.  So over the whole operation the service holds
    none of the value the user attached. -/
theorem metadata_operation_leaves_nothing_in_the_service (C : Crypto) (w0 w1 w2 w3 : World)
    (sender its tok : Bytes) (egld : Nat) (esdt : List (Bytes × Nat × Nat))
    (rs rs' : List Bytes) (evs evs' : List Event) (pd pd' : List PendDesc)
    (hk : w0.kind its = some .its) (hs : sender ≠ its)
    (h1 : World.tx C w0 sender its "registerTokenMetadata" egld esdt [tok] = (w1, .ok rs evs pd))
    -- later: the lookup registered by that transaction has been delivered …
    (p : Pending) (hp : World.findPending w2.pending w0.nextPending = some p)
    (hpk : p.kind = .itsMetadata its tok egld sender) (okFlag : Bool) (vals : List Bytes)
    (hres : p.result = some (okFlag, vals))
    (hkgs : w2.kind w2.its.gasService = some .gasService) (hkgw : w2.kind w2.its.gateway = some .gateway)
    (hg : w2.its.gasService ≠ its)
    -- … and its callback runs
    (h2 : World.callback C w2 w0.nextPending = (w3, .ok rs' evs' pd')) :
    World.egld w1 its = World.egld w0 its + egld ∧ World.egld w3 its + egld = World.egld w2 its :=
  ⟨(metadata_first_transaction C w0 w1 sender its tok egld esdt rs evs pd hk h1).2.1.dst hs,
    metadata_callback_at_chain_level C w2 w3 _ p its tok egld sender okFlag vals rs' evs' pd'
      hp hpk hres hkgs hkgw hs hg h2⟩

/-- **The synchronous part of a remote deployment of an ESDT token** (`deploy_remote_interchain_token_raw`, behind
    all three remote-deployment endpoints): nothing moves and nothing is written; exactly one token lookup is
    registered, remembering the attached EGLD as the gas value and `sender` as the one to refund. -/
theorem deployRemoteRaw_esdt (C : Crypto) (cx : ICtx) (salt chain dm sender : Bytes) (t t' : Tx) (tid tm : Bytes)
    (htm : t.w.its.tmAddress (tokenIdRaw C salt) = tm) (hk : t.w.kind tm = some .tokenManager)
    (hesdt : GasService.tokOfBytes (t.w.tms tm).tokenIdentifier ≠ none)
    (h : deployRemoteInterchainTokenRaw C cx salt chain dm sender t = some (tid, t')) :
    t'.w = { t.w with
      pending := t.w.pending ++
        [⟨⟨t.w.nextPending, esdtSystemSc, "getTokenProperties", 0, [], [(t.w.tms tm).tokenIdentifier]⟩, cx.self,
          .itsDeployRemote cx.self salt chain
            ((t.w.tms tm).tokenIdentifier.take ((t.w.tms tm).tokenIdentifier.length - 7)) dm cx.egld sender, none⟩],
      nextPending := t.w.nextPending + 1 } := by
  subst htm
  simp only [deployRemoteInterchainTokenRaw, bind_eq_some, requireNotPaused_eq_some] at h
  obtain ⟨_, _, ⟨-, rfl⟩, tokRaw, _, hreg, h⟩ := h
  unfold registeredTokenIdentifier at hreg
  obtain ⟨_, _, htm, hreg⟩ := bind_eq_some.mp hreg
  obtain ⟨rfl, -, rfl⟩ := deployedTokenManager_eq_some.mp htm
  obtain ⟨rs, t1, hs, hrs⟩ := bind_eq_some.mp hreg
  obtain ⟨rfl, rfl⟩ := subcall_tokenIdentifier hs hk
  cases hrs
  rw [if_neg (by simpa using hesdt)] at h
  obtain ⟨-, ⟨⟩⟩ := require_bind.mp h
  rfl

/-- what the three remote-deployment endpoints share: after the payment, the raw remote deployment of an ESDT
    token, in a world whose only difference from the one after the payment is the service's storage (`its'`: an
    approval may have been used) -/
theorem first_transaction_of_raw {C : Crypto} {w : World} {a : Bytes → Acct} {sender its salt chain dm tid tm : Bytes}
    {egld : Nat} {its' : Its.State} {t' : Tx} (hp : World.pay w sender its egld [] = some { w with accts := a })
    (hraw : deployRemoteInterchainTokenRaw C (World.itsCtx w sender its egld []) salt chain dm sender
      { w := { w with accts := a, its := its' } } = some (tid, t'))
    (hta : its'.tmAddress = w.its.tmAddress)
    (htm : w.its.tmAddress (tokenIdRaw C salt) = tm) (hktm : w.kind tm = some .tokenManager)
    (hesdt : GasService.tokOfBytes (w.tms tm).tokenIdentifier ≠ none) :
    World.Led w t'.w (World.pt sender none egld) (World.pt its none egld) ∧
    t'.w.pending = w.pending ++
      [⟨⟨w.nextPending, esdtSystemSc, "getTokenProperties", 0, [], [(w.tms tm).tokenIdentifier]⟩, its,
        .itsDeployRemote its salt chain
          ((w.tms tm).tokenIdentifier.take ((w.tms tm).tokenIdentifier.length - 7)) dm egld sender, none⟩] := by
  rw [deployRemoteRaw_esdt C _ salt chain dm sender { w := { w with accts := a, its := its' } } t' tid tm
    ((congrFun hta _).trans htm) hktm hesdt hraw]
  exact ⟨(World.Moves.of_pay (tok := none) hp).led.congr rfl rfl, rfl⟩

/-- **First transaction of a remote deployment of a canonical ESDT token**: the sender's EGLD goes to the
    service, nothing else moves, and exactly one token lookup is registered which remembers that amount as the
    gas value and the sender as the one to refund. -/
theorem remote_canonical_first_transaction (C : Crypto) (w w' : World) (sender its tok chain : Bytes) (egld : Nat)
    (esdt : List (Bytes × Nat × Nat)) (rs : List Bytes) (evs : List Event) (pd : List PendDesc) (tm : Bytes)
    (hk : w.kind its = some .its)
    (htm : w.its.tmAddress (tokenIdRaw C (canonicalDeploySalt C w.its tok)) = tm)
    (hktm : w.kind tm = some .tokenManager)
    (hesdt : GasService.tokOfBytes (w.tms tm).tokenIdentifier ≠ none)
    (h : World.tx C w sender its "deployRemoteCanonicalInterchainToken" egld esdt [tok, chain] = (w', .ok rs evs pd)) :
    esdt = [] ∧
    World.Led w w' (World.pt sender none egld) (World.pt its none egld) ∧
    w'.pending = w.pending ++
      [⟨⟨w.nextPending, esdtSystemSc, "getTokenProperties", 0, [], [(w.tms tm).tokenIdentifier]⟩, its,
        .itsDeployRemote its (canonicalDeploySalt C w.its tok) chain
          ((w.tms tm).tokenIdentifier.take ((w.tms tm).tokenIdentifier.length - 7)) [] egld sender, none⟩] := by
  obtain ⟨a, t', hp, hc, rfl, -, -⟩ := World.tx_its h hk
  rw [call_deployRemoteCanonical, getI_bind] at hc
  obtain ⟨hoe, hc⟩ := ite_fail_eq_some.mp hc
  obtain ⟨-, hc⟩ := require_bind.mp hc
  obtain ⟨tid, hraw, -⟩ := retUnlessAsync_eq_some.mp hc
  cases World.esdt_nil_of_onlyEgld hoe
  exact ⟨rfl, first_transaction_of_raw hp hraw rfl htm hktm hesdt⟩

/-- **The callback of a remote-deployment lookup, at chain level**: whenever the callback transaction of a
    delivered lookup succeeds — whatever the reply and whatever happened since the first transaction — exactly
    the remembered gas value leaves the service, to the original caller or to the gas service; for every account
    and asset nothing else moves. -/
theorem remote_deploy_callback_at_chain_level (C : Crypto) (w w' : World) (id : Nat) (p : Pending)
    (its salt chain sym dm : Bytes) (gas : Nat) (caller : Bytes) (okFlag : Bool) (vals rs : List Bytes)
    (evs : List Event) (pd : List PendDesc)
    (hp : World.findPending w.pending id = some p) (hk : p.kind = .itsDeployRemote its salt chain sym dm gas caller)
    (hr : p.result = some (okFlag, vals))
    (hkgs : w.kind w.its.gasService = some .gasService) (hkgw : w.kind w.its.gateway = some .gateway)
    (hchain : chain ≠ [])
    (h : World.callback C w id = (w', .ok rs evs pd)) :
    ∃ target, (target = caller ∨ target = w.its.gasService) ∧
      World.Led w w' (World.pt its none gas) (World.pt target none gas) := by
  obtain ⟨t', hm, rfl⟩ := World.callback_itsDeployRemote h hp hr hk
  obtain ⟨target, htg, hl⟩ := remote_deploy_callback_moves_exactly_the_gas_value hm hkgs hkgw hchain
  -- removing the delivered call from the pending list moves nothing
  exact ⟨target, htg, hl.led.congr rfl rfl⟩

/-- … so the service keeps none of it -/
theorem remote_deploy_callback_service_keeps_nothing {C : Crypto} {w w' : World} {id : Nat} {p : Pending}
    {its salt chain sym dm : Bytes} {gas : Nat} {caller : Bytes} {okFlag : Bool} {vals rs : List Bytes}
    {evs : List Event} {pd : List PendDesc}
    (h : World.callback C w id = (w', .ok rs evs pd))
    (hp : World.findPending w.pending id = some p) (hk : p.kind = .itsDeployRemote its salt chain sym dm gas caller)
    (hr : p.result = some (okFlag, vals))
    (hkgs : w.kind w.its.gasService = some .gasService) (hkgw : w.kind w.its.gateway = some .gateway)
    (hchain : chain ≠ []) (hc : caller ≠ its) (hg : w.its.gasService ≠ its) :
    World.egld w' its + gas = World.egld w its := by
  obtain ⟨target, rfl | rfl, hl⟩ := remote_deploy_callback_at_chain_level C w w' id p its salt chain sym dm gas caller
    okFlag vals rs evs pd hp hk hr hkgs hkgw hchain h
  · exact hl.src hc.symm
  · exact hl.src hg.symm

/-- **The whole remote deployment of a canonical ESDT token.**  The first transaction puts exactly `egld` into the
    service and registers the lookup; in any later world in which that lookup has been delivered (any reply, any
    operations in between), a successful callback takes exactly `egld` out of the service again — to the sender or
    to the gas service.  Over the whole operation the service holds none of the value the user attached. -/
theorem remote_canonical_operation_leaves_nothing_in_the_service (C : Crypto) (w0 w1 w2 w3 : World)
    (sender its tok chain tm : Bytes) (egld : Nat) (esdt : List (Bytes × Nat × Nat))
    (rs rs' : List Bytes) (evs evs' : List Event) (pd pd' : List PendDesc)
    (hk : w0.kind its = some .its) (hs : sender ≠ its)
    (htm : w0.its.tmAddress (tokenIdRaw C (canonicalDeploySalt C w0.its tok)) = tm)
    (hktm : w0.kind tm = some .tokenManager)
    (hesdt : GasService.tokOfBytes (w0.tms tm).tokenIdentifier ≠ none)
    (h1 : World.tx C w0 sender its "deployRemoteCanonicalInterchainToken" egld esdt [tok, chain] = (w1, .ok rs evs pd))
    (p : Pending) (hp : World.findPending w2.pending w0.nextPending = some p)
    (salt sym dm : Bytes) (hpk : p.kind = .itsDeployRemote its salt chain sym dm egld sender)
    (okFlag : Bool) (vals : List Bytes) (hres : p.result = some (okFlag, vals))
    (hkgs : w2.kind w2.its.gasService = some .gasService) (hkgw : w2.kind w2.its.gateway = some .gateway)
    (hg : w2.its.gasService ≠ its) (hchain : chain ≠ [])
    (h2 : World.callback C w2 w0.nextPending = (w3, .ok rs' evs' pd')) :
    World.egld w1 its = World.egld w0 its + egld ∧ World.egld w3 its + egld = World.egld w2 its :=
  ⟨(remote_canonical_first_transaction C w0 w1 sender its tok chain egld esdt rs evs pd tm hk htm hktm hesdt h1).2.1.dst hs,
    remote_deploy_callback_service_keeps_nothing h2 hp hpk hres hkgs hkgw hchain hs hg⟩

/-- without a minter the factory flow is the raw remote deployment under the deployer's interchain salt -/
theorem deployRemoteWithMinter_zero (C : Crypto) (cx : ICtx) (salt chain : Bytes) (t : Tx) :
    deployRemoteWithMinter C cx salt zeroAddr chain none t =
      deployRemoteInterchainTokenRaw C cx (interchainTokenDeploySalt C t.w.its cx.caller salt) chain [] cx.caller t := by
  have hz : Gateway.isZeroAddr zeroAddr = true := by decide
  simp [deployRemoteWithMinter, hz]

/-- **First transaction of `deployRemoteInterchainToken` for an ESDT token**: the sender's EGLD goes to the service,
    nothing else moves, and exactly one token lookup is registered which remembers that amount as the gas value and
    the sender as the one to refund. -/
theorem remote_interchain_first_transaction (C : Crypto) (w w' : World) (sender its saltArg salt chain : Bytes)
    (egld : Nat) (esdt : List (Bytes × Nat × Nat)) (rs : List Bytes) (evs : List Event) (pd : List PendDesc) (tm : Bytes)
    (hk : w.kind its = some .its) (hsalt : topFixed 32 saltArg = some salt)
    (htm : w.its.tmAddress (tokenIdRaw C (interchainTokenDeploySalt C w.its sender salt)) = tm)
    (hktm : w.kind tm = some .tokenManager)
    (hesdt : GasService.tokOfBytes (w.tms tm).tokenIdentifier ≠ none)
    (h : World.tx C w sender its "deployRemoteInterchainToken" egld esdt [saltArg, chain] = (w', .ok rs evs pd)) :
    esdt = [] ∧
    World.Led w w' (World.pt sender none egld) (World.pt its none egld) ∧
    w'.pending = w.pending ++
      [⟨⟨w.nextPending, esdtSystemSc, "getTokenProperties", 0, [], [(w.tms tm).tokenIdentifier]⟩, its,
        .itsDeployRemote its (interchainTokenDeploySalt C w.its sender salt) chain
          ((w.tms tm).tokenIdentifier.take ((w.tms tm).tokenIdentifier.length - 7)) [] egld sender, none⟩] := by
  obtain ⟨a, t', hp, hc, rfl, -, -⟩ := World.tx_its h hk
  rw [call_deployRemoteInterchain, getI_bind, hsalt] at hc
  obtain ⟨hoe, hc⟩ := ite_fail_eq_some.mp hc
  obtain ⟨tid, hraw, -⟩ := retUnlessAsync_eq_some.mp hc
  rw [deployRemoteWithMinter_zero] at hraw
  cases World.esdt_nil_of_onlyEgld hoe
  exact ⟨rfl, first_transaction_of_raw hp hraw rfl htm hktm hesdt⟩

/-- **The whole `deployRemoteInterchainToken` of an ESDT token.**  Over the operation — first transaction, anything the
    schedule puts in between, successful callback of the delivered lookup — the service's EGLD goes up by exactly the
    attached amount and down by exactly the same amount: it holds none of the value the user attached. -/
theorem remote_interchain_operation_leaves_nothing_in_the_service (C : Crypto) (w0 w1 w2 w3 : World)
    (sender its saltArg salt0 chain tm : Bytes) (egld : Nat) (esdt : List (Bytes × Nat × Nat))
    (rs rs' : List Bytes) (evs evs' : List Event) (pd pd' : List PendDesc)
    (hk : w0.kind its = some .its) (hs : sender ≠ its) (hsalt : topFixed 32 saltArg = some salt0)
    (htm : w0.its.tmAddress (tokenIdRaw C (interchainTokenDeploySalt C w0.its sender salt0)) = tm)
    (hktm : w0.kind tm = some .tokenManager)
    (hesdt : GasService.tokOfBytes (w0.tms tm).tokenIdentifier ≠ none)
    (h1 : World.tx C w0 sender its "deployRemoteInterchainToken" egld esdt [saltArg, chain] = (w1, .ok rs evs pd))
    (p : Pending) (hp : World.findPending w2.pending w0.nextPending = some p)
    (salt sym dm : Bytes) (hpk : p.kind = .itsDeployRemote its salt chain sym dm egld sender)
    (okFlag : Bool) (vals : List Bytes) (hres : p.result = some (okFlag, vals))
    (hkgs : w2.kind w2.its.gasService = some .gasService) (hkgw : w2.kind w2.its.gateway = some .gateway)
    (hg : w2.its.gasService ≠ its) (hchain : chain ≠ [])
    (h2 : World.callback C w2 w0.nextPending = (w3, .ok rs' evs' pd')) :
    World.egld w1 its = World.egld w0 its + egld ∧ World.egld w3 its + egld = World.egld w2 its :=
  ⟨(remote_interchain_first_transaction C w0 w1 sender its saltArg salt0 chain egld esdt rs evs pd tm
      hk hsalt htm hktm hesdt h1).2.1.dst hs,
    remote_deploy_callback_service_keeps_nothing h2 hp hpk hres hkgs hkgw hchain hs hg⟩

end Axelar.Props.C17
