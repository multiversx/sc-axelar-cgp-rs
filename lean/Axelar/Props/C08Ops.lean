/-
  C08 at chain level — the three separately scheduled steps of an inbound transfer with data as operations of the
  composed world (`World.tx`, `World.deliver`, `World.callback`), tied to the step theorems of `C08.lean`.
-/
import Axelar.Props.C08
namespace Axelar.Props.C08
open Axelar Axelar.ItsW Axelar.Its Codec

/-- **Bridge**: a successful `execute` transaction on the token service IS the payment (`w1` differs from `w` in balances
    only) followed by a successful run of the model's `execute` in `w1`; the world after the transaction and the calls it
    registered are those of that run.  (EGLD is attached by the issuing step of a deploy-token message, which pays the
    issue cost.) -/
theorem tx_execute_paid (C : Crypto) (w w' : World) (sender its sc mid sa payload : Bytes) (egld : Nat)
    (rs : List Bytes) (evs : List Event) (pd : List PendDesc) (hk : w.kind its = some .its)
    (h : World.tx C w sender its "execute" egld [] [sc, mid, sa, payload] = (w', .ok rs evs pd)) :
    ∃ w1 tt, World.pay w sender its egld [] = some w1 ∧ World.BalOnly w w1 ∧
      execute C (World.itsCtx w1 sender its egld []) sc mid sa payload { w := w1 } = some ((), tt) ∧
      w' = tt.w ∧ pd = tt.pend := by
  obtain ⟨a, tt, hp, hc, hw, _, hd⟩ := World.tx_its h hk
  rw [call_execute, getI_bind] at hc
  obtain ⟨_, tt, he, hr⟩ := bind_eq_some.mp hc
  cases hr
  exact ⟨_, tt, hp, World.pay_bal hp, he, hw.symm, hd.symm⟩

/-- … without payment the run starts in the world before the transaction.  Every function-level theorem about `execute`
    thereby speaks about whole transactions. -/
theorem tx_execute (C : Crypto) (w w' : World) (sender its sc mid sa payload : Bytes)
    (rs : List Bytes) (evs : List Event) (pd : List PendDesc) (hk : w.kind its = some .its)
    (h : World.tx C w sender its "execute" 0 [] [sc, mid, sa, payload] = (w', .ok rs evs pd)) :
    ∃ tt, execute C (World.itsCtx w sender its 0 []) sc mid sa payload { w := w } = some ((), tt) ∧
      w' = tt.w ∧ pd = tt.pend := by
  obtain ⟨w1, tt, hp, _, he, hw, hd⟩ := tx_execute_paid C w w' sender its sc mid sa payload 0 rs evs pd hk h
  cases World.pay_zero_eq hp
  exact ⟨tt, he, hw, hd⟩

/-- **Step 1 as a transaction of the composed world.**  A successful `execute` of a transfer message with data: the gateway
    held the approval for exactly this message, addressed to the service; the message was not locked and is locked
    afterwards; exactly the amount moved from the manager (or was minted) into the service and nothing else moved, for any
    account or asset; and the last call the transaction registered goes to the payload's destination carrying exactly that
    amount of the manager's token. -/
theorem with_data_first_transaction (C : Crypto) (w w' : World) (sender its sc mid sa payload : Bytes)
    (rs : List Bytes) (evs : List Event) (pd : List PendDesc) (oc inner : Bytes) (p : Abi.Transfer)
    (tm : Bytes) (st : TokenManager.State)
    (hk : w.kind its = some .its)
    (hg : getExecuteParams w.its sc payload = some (Generated.MESSAGE_TYPE_INTERCHAIN_TRANSFER, oc, inner))
    (hd : Abi.Transfer.decode inner = .ok p) (hdata : p.data.isEmpty = false)
    (htm : w.its.tmAddress p.tokenId = tm) (hst : w.tms tm = st)
    (hkgw : w.kind w.its.gateway = some .gateway) (hktm : w.kind tm = some .tokenManager)
    (h : World.tx C w sender its "execute" 0 [] [sc, mid, sa, payload] = (w', .ok rs evs pd)) :
    w.gw.messages (sc, mid) = .approved (Gateway.messageHash C sc mid sa its (C.H payload)) ∧
    w.its.lock (sc, mid) = false ∧ w'.its.lock (sc, mid) = true ∧
    World.Led w w' (giveOut st tm p.amount) (World.pt its (TokenManager.tokOfBytes st.tokenIdentifier) p.amount) ∧
    ∃ ds d, pd = ds ++ [d] ∧ d.to = p.destinationAddress ∧
      d.egld = (payOf (TokenManager.tokOfBytes st.tokenIdentifier) p.amount).1 ∧
      d.esdt = (payOf (TokenManager.tokOfBytes st.tokenIdentifier) p.amount).2.map
        (fun q => (World.asciiString q.1, q.2.1, q.2.2)) := by
  obtain ⟨tt, he, rfl, rfl⟩ := tx_execute C w w' sender its sc mid sa payload rs evs pd hk h
  obtain ⟨p', _, hd', _, hb⟩ := processInterchainTransfer_eq_some (execute_transfer he hg).2
  cases hd.symm.trans hd'
  obtain ⟨he, _⟩ | ⟨_, hs⟩ := hb
  · cases he ▸ hdata
  obtain ⟨ha, hl, hl'⟩ := start_needs_approval_and_sets_the_lock C _ _ oc sc mid sa _ _ _ _ _ _ tt hkgw hs
  -- stated apart: against the goal the start state `_` is only found after `Led` has been unfolded, several times
  have hm := start_moves_the_amount_into_the_service C _ _ oc sc mid sa _ _ _ _ _ _ tt tm st htm hst hkgw hktm hs
  exact ⟨ha, hl, hl', hm⟩

/-- **Bridge for step 3**: a successful callback operation of a delivered transfer-with-data call IS a successful run of
    `execute_with_token_callback` on the world with that pending call removed. -/
theorem callback_runs_the_service_callback (C : Crypto) (w w' : World) (id : Nat) (p : Pending)
    (its sc mid sa ph tid tokRaw : Bytes) (amount : Nat) (okFlag : Bool) (vals rs : List Bytes)
    (evs : List Event) (pd : List PendDesc)
    (hp : World.findPending w.pending id = some p) (hk : p.kind = .itsExecute its sc mid sa ph tid tokRaw amount)
    (hr : p.result = some (okFlag, vals))
    (h : World.callback C w id = (w', .ok rs evs pd)) :
    ∃ tt, executeWithTokenCallback C
        (World.itsCtx { w with pending := w.pending.filter (·.desc.id != id) } p.desc.to its 0 [])
        sc mid sa ph tid tokRaw amount okFlag { w := { w with pending := w.pending.filter (·.desc.id != id) } }
          = some ((), tt) ∧ w' = tt.w :=
  (World.callback_itsExecute h hp hr hk).imp fun _ ht => ht.imp_right Eq.symm

/-- **Step 3 after a successful delivery, as an operation of the composed world**: nothing moves for any account or asset,
    the message is executed at the gateway and unlocked in the service. -/
theorem success_callback_at_chain_level (C : Crypto) (w w' : World) (id : Nat) (p : Pending)
    (its sc mid sa ph tid tokRaw : Bytes) (amount : Nat) (vals rs : List Bytes) (evs : List Event) (pd : List PendDesc)
    (hp : World.findPending w.pending id = some p) (hk : p.kind = .itsExecute its sc mid sa ph tid tokRaw amount)
    (hr : p.result = some (true, vals))
    (hkgw : w.kind w.its.gateway = some .gateway)
    (hpre : w.gw.messages (sc, mid) = .approved (Gateway.messageHash C sc mid sa its ph) ∨
            w.gw.messages (sc, mid) = .executed)
    (h : World.callback C w id = (w', .ok rs evs pd)) :
    World.Led w w' World.nil World.nil ∧ w'.gw.messages (sc, mid) = .executed ∧ w'.its.lock (sc, mid) = false := by
  obtain ⟨tt, hm, rfl⟩ := World.callback_itsExecute h hp hr hk
  have he := success_callback_leaves_message_executed C _ sc mid sa ph tid tokRaw amount _ tt hkgw hpre hm
  -- removing the pending call changed no account
  exact ⟨(success_callback_moves_nothing C _ sc mid sa ph tid tokRaw amount _ tt hkgw hm).congr rfl rfl, he⟩

/-- **Step 3 after a failed delivery, as an operation of the composed world** (when it goes through — F1 is the case in
    which it does not): exactly the amount returns from the service to the manager's custody, or is burned; nothing else
    moves; the message is unlocked (and, not having been validated, still approved: it can be retried). -/
theorem failure_callback_at_chain_level (C : Crypto) (w w' : World) (id : Nat) (p : Pending)
    (its sc mid sa ph tid tokRaw : Bytes) (amount : Nat) (vals rs : List Bytes) (evs : List Event) (pd : List PendDesc)
    (tm : Bytes) (st : TokenManager.State)
    (hp : World.findPending w.pending id = some p) (hk : p.kind = .itsExecute its sc mid sa ph tid tokRaw amount)
    (hr : p.result = some (false, vals))
    (htm : w.its.tmAddress tid = tm) (hst : w.tms tm = st) (hktm : w.kind tm = some .tokenManager)
    (h : World.callback C w id = (w', .ok rs evs pd)) :
    GasService.tokOfBytes tokRaw = TokenManager.tokOfBytes st.tokenIdentifier ∧
    World.Led w w' (World.pt its (GasService.tokOfBytes tokRaw) amount) (takeIn st tm amount) ∧
    w'.its.lock (sc, mid) = false := by
  obtain ⟨tt, hm, rfl⟩ := World.callback_itsExecute h hp hr hk
  obtain ⟨htok, hl, hlock⟩ := failure_callback_returns_the_amount C _ sc mid sa ph tid tokRaw amount _ tt tm st htm hst
    hktm hm
  -- removing the pending call changed no account
  exact ⟨htok, hl.congr rfl rfl, hlock⟩

/-! ### Non-vacuity (test): the transfer message type is the one `execute` dispatches on first -/
example : (Generated.MESSAGE_TYPE_INTERCHAIN_TRANSFER == Generated.MESSAGE_TYPE_INTERCHAIN_TRANSFER) = true := by decide

end Axelar.Props.C08
