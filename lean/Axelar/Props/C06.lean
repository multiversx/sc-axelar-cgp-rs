/-
  C06 — ITS ABI encoder is byte-exact Solidity abi.encode for every message type.
-/
import Axelar.Proofs.AbiEncode
import Axelar.Generated.AbiFields
namespace Axelar.Props.C06
open Axelar Axelar.Abi Axelar.Sol

/-- For every token list whose integers fit 256 bits (and whose `bytes32`
    fields are 32 bytes, which the Rust type guarantees) and whose encoding is shorter than
    2^32 bytes (the only place the Rust uses `u32` arithmetic), the model of
    `raw_abi_encode` returns exactly the Solidity encoding. -/
theorem encoder_is_abi_encode (toks : List Tok) (hf : ∀ t ∈ toks, Tok.fits t)
    (hlen : 32 * toks.length + (tails toks).length < 2 ^ 32) :
    rawEncode toks = .ok (enc toks) := by
  simp only [rawEncode, headsLen_eq, Nat.zero_add, headPass_spec toks [] _ hf hlen]
  rw [tailPass_spec toks _ (Nat.lt_of_le_of_lt (Nat.le_add_left _ _) hlen)]
  rfl

/-- the side condition is exactly "the encoding is shorter than 2^32 bytes" -/
theorem enc_length (toks : List Tok) (hf : ∀ t ∈ toks, Tok.fits t) :
    (enc toks).length = 32 * toks.length + (tails toks).length := by
  simp [enc, heads_length toks _ hf]

/-- **Oversize integers are rejected, never truncated.** -/
theorem rejects_oversize (toks : List Tok) (n : Nat) (hmem : Tok.uint256 n ∈ toks)
    (hn : 2 ^ 256 ≤ n) : ∃ e, rawEncode toks = .error e := by
  obtain ⟨e, he⟩ := headPass_error hmem hn [] (toks.foldl (fun a t => a + headLen t) 0)
  exact ⟨e, by rw [rawEncode, he]⟩

/-! ### Tie to the source: the per-type token lists are those extracted from abi_types.rs -/

def fieldTys (l : List (Ty × String)) : List Ty := l.map Prod.fst

theorem transfer_fields (p : Transfer) : p.toks.map Tok.ty = fieldTys Generated.transferEncode := rfl
theorem deploy_fields (p : Deploy) : p.toks.map Tok.ty = fieldTys Generated.deployEncode := rfl
theorem hub_fields (p : Hub) : p.toks.map Tok.ty = fieldTys Generated.hubEncode := rfl
theorem metadata_fields (p : Metadata) : p.toks.map Tok.ty = fieldTys Generated.metadataEncode := rfl
theorem link_fields (p : Link) : p.toks.map Tok.ty = fieldTys Generated.linkEncode := rfl

/-- field *names* in source order (a swap of two same-typed fields in the Rust breaks this) -/
theorem field_names :
    Generated.transferEncode.map Prod.snd =
      ["message_type", "token_id", "source_address", "destination_address", "amount", "data"] ∧
    Generated.deployEncode.map Prod.snd =
      ["message_type", "token_id", "name", "symbol", "decimals", "minter"] ∧
    Generated.hubEncode.map Prod.snd = ["message_type", "destination_chain", "payload"] ∧
    Generated.metadataEncode.map Prod.snd = ["message_type", "token_identifier", "decimals"] ∧
    Generated.linkEncode.map Prod.snd =
      ["message_type", "token_id", "token_manager_type", "source_token_address",
       "destination_token_address", "link_params"] := ⟨rfl, rfl, rfl, rfl, rfl⟩

/-- the `TokenManagerType -> u8` table is the EVM one (identity on 0..4) -/
theorem token_manager_type_table :
    Generated.tokenManagerTypeIntoU8 =
      [("NativeInterchainToken", 0), ("MintBurnFrom", 1), ("LockUnlock", 2),
       ("LockUnlockFee", 3), ("MintBurn", 4)] := rfl

theorem transfer_encode (p : Transfer) (h1 : p.messageType < 2 ^ 256) (h2 : p.amount < 2 ^ 256)
    (h3 : p.tokenId.length = 32) (hlen : 32 * 6 + (tails p.toks).length < 2 ^ 32) :
    p.encode = .ok (enc p.toks) :=
  encoder_is_abi_encode p.toks (fitsAll_iff.mp ⟨h1, h3, h2, trivial⟩) hlen

theorem deploy_encode (p : Deploy) (h1 : p.messageType < 2 ^ 256)
    (h3 : p.tokenId.length = 32) (hlen : 32 * 6 + (tails p.toks).length < 2 ^ 32) :
    p.encode = .ok (enc p.toks) :=
  encoder_is_abi_encode p.toks (fitsAll_iff.mp ⟨h1, h3, trivial⟩) hlen

theorem hub_encode (p : Hub) (h1 : p.messageType < 2 ^ 256)
    (hlen : 32 * 3 + (tails p.toks).length < 2 ^ 32) :
    p.encode = .ok (enc p.toks) :=
  encoder_is_abi_encode p.toks (fitsAll_iff.mp ⟨h1, trivial⟩) hlen

theorem metadata_encode (p : Metadata) (h1 : p.messageType < 2 ^ 256)
    (hlen : 32 * 3 + (tails p.toks).length < 2 ^ 32) :
    p.encode = .ok (enc p.toks) :=
  encoder_is_abi_encode p.toks (fitsAll_iff.mp ⟨h1, trivial⟩) hlen

theorem link_encode (p : Link) (h1 : p.messageType < 2 ^ 256)
    (h3 : p.tokenId.length = 32) (hlen : 32 * 6 + (tails p.toks).length < 2 ^ 32) :
    p.encode = .ok (enc p.toks) :=
  encoder_is_abi_encode p.toks (fitsAll_iff.mp ⟨h1, h3, trivial⟩) hlen

/-- Layout facts stated in the property: one 32-byte head word per field, tails in field
    order, each tail a length word followed by the data right-padded to a 32-byte multiple. -/
theorem layout (toks : List Tok) (hf : ∀ t ∈ toks, Tok.fits t) :
    (heads toks (32 * toks.length)).length = 32 * toks.length ∧
    enc toks = heads toks (32 * toks.length) ++ (toks.map Sol.tail).flatten ∧
    (∀ b, Sol.tail (.bytes b) = word b.length ++ b ++ zeros ((32 - b.length % 32) % 32)) ∧
    (∀ t ∈ toks, (Sol.tail t).length % 32 = 0) := by
  refine ⟨heads_length toks _ hf, rfl, fun b => (List.append_assoc ..).symm, fun t _ => ?_⟩
  rw [tail_length]
  cases t with
  | bytes b | string b => exact Nat.mul_mod_left ..
  | _ => rfl

/-! ### Non-vacuity (tests, not obligations) -/

example : (∀ t ∈ ([.uint256 5, .bytes [1, 2, 3]] : List Tok), Tok.fits t) ∧
    32 * 2 + (tails [.uint256 5, .bytes [1, 2, 3]]).length < 2 ^ 32 := by
  simp only [tails_cons, List.length_append, tail_length]
  decide

example : rawEncode [.uint256 5, .bytes [1, 2, 3]] = .ok (enc [.uint256 5, .bytes [1, 2, 3]]) :=
  encoder_is_abi_encode _ (by decide)
    (by simp only [tails_cons, List.length_append, tail_length]; decide)

end Axelar.Props.C06
