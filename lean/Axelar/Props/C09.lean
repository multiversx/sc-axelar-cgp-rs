/-
  C09 — Token manager flow limit bounds net flow per six-hour epoch.
-/
import Axelar.Proofs.TokenManagerProofs
namespace Axelar.Props.C09
open Axelar Axelar.TokenManager Codec

/-- net-flow bound for epoch `e` under limit `L` -/
def NetInv (L : Nat) (st : State) (e : Nat) : Prop :=
  st.flowIn e ≤ st.flowOut e + L ∧ st.flowOut e ≤ st.flowIn e + L

/-- **Every accepted inbound transfer** under a non-zero limit is at most the limit and leaves
    the net inbound flow of the current epoch at most the limit. -/
theorem accepted_give_within_limit (st : State) (ctx : Ctx) (dest : Bytes) (amount : Nat) (out : Out)
    (h : giveToken st ctx dest amount = .ok out) (hL : st.flowLimit ≠ 0) :
    amount ≤ st.flowLimit ∧
    out.st.flowIn (epochOf ctx.now) = st.flowIn (epochOf ctx.now) + amount ∧
    out.st.flowIn (epochOf ctx.now) ≤ out.st.flowOut (epochOf ctx.now) + st.flowLimit ∧
    out.st.flowLimit = st.flowLimit := by
  obtain ⟨f, e, ⟨h0, _⟩ | ⟨_, a, b, ef⟩⟩ := addFlowIn_eq_ok (giveToken_eq_ok h).2.1
  · exact absurd h0 hL
  · rw [e, ef]
    dsimp only
    rw [upd_same]
    exact ⟨a, rfl, b, rfl⟩

/-- **Every accepted outbound transfer**, symmetrically. -/
theorem accepted_take_within_limit (st : State) (ctx : Ctx) (out : Out)
    (h : takeToken st ctx = .ok out) (hL : st.flowLimit ≠ 0) :
    ∃ amount, out.results = [encNat amount] ∧ amount ≤ st.flowLimit ∧
    out.st.flowOut (epochOf ctx.now) = st.flowOut (epochOf ctx.now) + amount ∧
    out.st.flowOut (epochOf ctx.now) ≤ out.st.flowIn (epochOf ctx.now) + st.flowLimit ∧
    out.st.flowLimit = st.flowLimit := by
  obtain ⟨_, _, tok, amount, _, hf, hr, _⟩ := takeToken_eq_ok h
  obtain ⟨f, e, ⟨h0, _⟩ | ⟨_, a, b, ef⟩⟩ := addFlowOut_eq_ok hf
  · exact absurd h0 hL
  · rw [e, ef]
    dsimp only
    rw [upd_same]
    exact ⟨amount, hr, a, rfl, b, rfl⟩

/-- `a` is the counter the flow check has just raised (by `x`, at epoch `e0`), `c` the opposite one -/
theorem upd_keeps_bound {a c : Nat → Nat} {L x e0 : Nat} (e : Nat) (hx : a e0 + x ≤ c e0 + L)
    (h : a e ≤ c e + L ∧ c e ≤ a e + L) :
    upd a e0 (a e0 + x) e ≤ c e + L ∧ c e ≤ upd a e0 (a e0 + x) e + L := by
  by_cases he : e = e0
  · subst he
    rw [upd_same]
    exact ⟨hx, Nat.le_trans h.2 (Nat.add_le_add_right (Nat.le_add_right _ x) L)⟩
  · rw [upd_other he]
    exact h

theorem addFlowIn_keeps_bound {st st' : State} {now amount e : Nat} (h : addFlowIn st now amount = .ok st')
    (hinv : NetInv st.flowLimit st e) : NetInv st.flowLimit st' e := by
  obtain ⟨f, rfl, ⟨_, rfl⟩ | ⟨_, _, b, rfl⟩⟩ := addFlowIn_eq_ok h
  · exact hinv
  · exact upd_keeps_bound e b hinv

theorem addFlowOut_keeps_bound {st st' : State} {now amount e : Nat} (h : addFlowOut st now amount = .ok st')
    (hinv : NetInv st.flowLimit st e) : NetInv st.flowLimit st' e := by
  obtain ⟨f, rfl, ⟨_, rfl⟩ | ⟨_, _, b, rfl⟩⟩ := addFlowOut_eq_ok h
  · exact hinv
  · exact (upd_keeps_bound e b hinv.symm).symm

/-- the bound under the limit in force before a call survives the call, whatever it is (`setFlowLimit` leaves the
    counters alone) -/
theorem step_keeps_bound {st : State} {ctx : Ctx} {func : String} {args : List Bytes} {out : Out} {e : Nat}
    (h : call st ctx func args = .ok out) (hinv : NetInv st.flowLimit st e) : NetInv st.flowLimit out.st e := by
  rcases call_state h with ⟨_, hf⟩ | ⟨_, hf⟩ | ⟨l, _, _, e1⟩ | hs
  · exact addFlowIn_keeps_bound hf hinv
  · exact addFlowOut_keeps_bound hf hinv
  · rw [e1]
    exact hinv
  · unfold NetInv
    rw [hs.flowIn, hs.flowOut]
    exact hinv

/-- **One step preserves the net-flow bound** for every epoch, as long as the call does not
    change the limit (any endpoint, any caller, any arguments, any time). -/
theorem step_preserves_bound (st : State) (ctx : Ctx) (func : String) (args : List Bytes) (out : Out)
    (h : call st ctx func args = .ok out) (hsame : out.st.flowLimit = st.flowLimit) (e : Nat)
    (hinv : NetInv st.flowLimit st e) : NetInv st.flowLimit out.st e :=
  step_keeps_bound h hinv

/-- a transaction in a history: context, endpoint, arguments; failures leave the state -/
structure TCall where
  ctx : Ctx
  func : String
  args : List Bytes

def stepCall (st : State) (c : TCall) : State :=
  match call st c.ctx c.func c.args with
  | .ok out => out.st
  | .error _ => st

/-- the limit is `L` in every state along the run -/
def limitConstant (L : Nat) : State → List TCall → Prop
  | st, [] => st.flowLimit = L
  | st, c :: cs => st.flowLimit = L ∧ limitConstant L (stepCall st c) cs

/-- **Under an unchanged limit the net flow in either direction never exceeds it**, for every
    epoch, over every history of calls (transfers in and out of any amounts by anyone, role
    operations, epoch boundaries), starting from any state satisfying the bound (in
    particular a freshly deployed manager, whose counters are all zero). -/
theorem bound_over_histories (L : Nat) (st : State) (cs : List TCall) (e : Nat)
    (hconst : limitConstant L st cs) (hinv : NetInv L st e) :
    NetInv L (cs.foldl stepCall st) e := by
  induction cs generalizing st with
  | nil => exact hinv
  | cons c cs ih =>
    obtain ⟨hl, hrest⟩ := hconst
    refine ih _ hrest ?_
    unfold stepCall
    cases hc : call st c.ctx c.func c.args with
    | error err => exact hinv
    | ok out =>
      subst hl
      exact step_keeps_bound hc hinv

theorem fresh_manager_satisfies_bound (L : Nat) (st : State) (e : Nat)
    (h0 : st.flowIn e = 0) (h1 : st.flowOut e = 0) : NetInv L st e :=
  ⟨h0 ▸ Nat.zero_le _, h1 ▸ Nat.zero_le _⟩

/-- **Counters are per epoch**: a call at time `now` touches only the counters of
    `now / EPOCH_TIME`; all other epochs' counters are unchanged (so a new epoch starts at 0). -/
theorem only_current_epoch_touched (st : State) (ctx : Ctx) (func : String) (args : List Bytes)
    (out : Out) (h : call st ctx func args = .ok out) (e : Nat) (he : e ≠ epochOf ctx.now) :
    out.st.flowIn e = st.flowIn e ∧ out.st.flowOut e = st.flowOut e := by
  rcases call_state h with ⟨_, hf⟩ | ⟨_, hf⟩ | ⟨l, _, _, e1⟩ | hs
  · obtain ⟨f, e1, ⟨_, ef⟩ | ⟨_, _, _, ef⟩⟩ := addFlowIn_eq_ok hf
    · rw [e1, ef]
      exact ⟨rfl, rfl⟩
    · rw [e1, ef]
      exact ⟨upd_other he .., rfl⟩
  · obtain ⟨f, e1, ⟨_, ef⟩ | ⟨_, _, _, ef⟩⟩ := addFlowOut_eq_ok hf
    · rw [e1, ef]
      exact ⟨rfl, rfl⟩
    · rw [e1, ef]
      exact ⟨rfl, upd_other he ..⟩
  · rw [e1]
    exact ⟨rfl, rfl⟩
  · rw [hs.flowIn, hs.flowOut]
    exact ⟨rfl, rfl⟩

/-- **With a limit of zero no transfer is ever rejected for flow reasons** (and nothing is counted). -/
theorem zero_limit_never_rejects (st : State) (now amount : Nat) (h : st.flowLimit = 0) :
    addFlowIn st now amount = .ok st ∧ addFlowOut st now amount = .ok st := by
  simp [addFlowIn, addFlowOut, h]

/-- **Only flow limiters change the limit.** -/
theorem limit_changes_only_by_flow_limiter (st : State) (ctx : Ctx) (func : String) (args : List Bytes)
    (out : Out) (h : call st ctx func args = .ok out) (hne : out.st.flowLimit ≠ st.flowLimit) :
    func = "setFlowLimit" ∧ intersects (st.roles ctx.caller) FLOW_LIMITER = true := by
  rcases call_state h with ⟨_, hf⟩ | ⟨_, hf⟩ | ⟨l, hfn, hr, _⟩ | hs
  · obtain ⟨f, e1, _⟩ := addFlowIn_eq_ok hf
    exact absurd (congrArg State.flowLimit e1) hne
  · obtain ⟨f, e1, _⟩ := addFlowOut_eq_ok hf
    exact absurd (congrArg State.flowLimit e1) hne
  · exact ⟨hfn, hr⟩
  · exact absurd hs.flowLimit hne

theorem epoch_time_is_six_hours : Generated.EPOCH_TIME = 6 * 3600 := by decide

/-! ### Non-vacuity (tests) -/
example : addFlow 10 4 1 7 = some 11 ∧ addFlow 10 4 1 8 = none ∧ addFlow 10 0 5 11 = none := by decide

end Axelar.Props.C09
