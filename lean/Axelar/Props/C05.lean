/-
  C05 — ITS outbound transfers conserve value and emit a faithful cross-chain message.
-/
import Axelar.Proofs.ItsEvents
import Axelar.Proofs.ItsFrame
namespace Axelar.Props.C05
open Axelar Axelar.ItsW Axelar.Its Codec

/-- total attached amount of token `t` (`none` = EGLD) -/
def attached (egld : Nat) (esdt : List (Bytes × Nat × Nat)) (t : Its.Tok) : Nat :=
  (match t with | none => egld | some _ => 0) +
  (esdt.map fun (tok, _, amt) => if some tok = t then amt else 0).sum

/-- **The payment shapes, exactly.**  The split succeeds iff the payment is: EGLD > gas;
    one fungible ESDT > gas; or two fungible ESDTs whose second equals the gas value (the
    EGLD-as-ESDT identifier meaning EGLD gas).  Transfer amount and gas token are as the
    property states. -/
theorem split_shapes (egld : Nat) (esdt : List (Bytes × Nat × Nat)) (gas : Nat) (tg : TransferAndGas) :
    getTransferAndGasTokens egld esdt gas = some tg ↔
      (esdt = [] ∧ gas < egld ∧ tg = ⟨none, egld - gas, none, gas⟩) ∨
      (∃ tok amt, esdt = [(tok, 0, amt)] ∧ gas < amt ∧ tg = ⟨some tok, amt - gas, some tok, gas⟩) ∨
      (∃ tok amt tok2, esdt = [(tok, 0, amt), (tok2, 0, gas)] ∧
        tg = ⟨some tok, amt, if tok2 = Generated.ESDT_EGLD_IDENTIFIER then none else some tok2, gas⟩) := by
  constructor
  · fun_cases getTransferAndGasTokens egld esdt gas
    all_goals intro h
    -- closes the seven branches that return `none`; in the three that are left it puts their result for `tg`
    all_goals cases h
    · rename_i hg
      exact .inl ⟨rfl, hg, rfl⟩
    · rename_i hn hg
      cases (by simpa using hn : _ = 0)
      exact .inr (.inl ⟨_, _, rfl, hg, rfl⟩)
    · rename_i h1 h2 h3 gasTok
      simp only [bne_iff_ne, Decidable.not_not] at h1 h2 h3
      subst h1 h2 h3
      exact .inr (.inr ⟨_, _, _, rfl, by simp only [gasTok, beq_iff_eq]⟩)
  · rintro (⟨rfl, hg, rfl⟩ | ⟨tok, amt, rfl, hg, rfl⟩ | ⟨tok, amt, tok2, rfl, rfl⟩)
    · simp [getTransferAndGasTokens, hg]
    · simp [getTransferAndGasTokens, hg]
    · simp only [getTransferAndGasTokens, bne_self_eq_false, Bool.false_eq_true, if_false, beq_iff_eq]

/-- **What leaves the sender equals transfer + gas.**  When transfer and gas are paid in the
    same token the two parts add up to the single payment; with two payments each part is one
    payment. -/
theorem split_conserves (egld : Nat) (esdt : List (Bytes × Nat × Nat)) (gas : Nat) (tg : TransferAndGas)
    (h : getTransferAndGasTokens egld esdt gas = some tg) :
    tg.gasAmount = gas ∧ 0 < tg.transferAmount + (if esdt.length = 2 then 1 else 0) ∧
    ((esdt.length ≤ 1 ∧ tg.gasToken = tg.transferToken ∧
        tg.transferAmount + tg.gasAmount = attached egld esdt tg.transferToken ∧
        (∀ t, t ≠ tg.transferToken → attached egld esdt t = 0 ∨ (t = none ∧ esdt ≠ [] ∧ egld = attached egld esdt t))) ∨
     (∃ tok amt tok2, esdt = [(tok, 0, amt), (tok2, 0, gas)] ∧ tg.transferAmount = amt ∧
        tg.transferToken = some tok)) := by
  rcases (split_shapes egld esdt gas tg).mp h with ⟨rfl, hg, rfl⟩ | ⟨tok, amt, rfl, hg, rfl⟩ | ⟨tok, amt, tok2, rfl, rfl⟩
  · refine ⟨rfl, Nat.lt_add_right _ (Nat.sub_pos_of_lt hg), .inl ⟨Nat.zero_le _, rfl, Nat.sub_add_cancel (Nat.le_of_lt hg), ?_⟩⟩
    rintro (_ | x) ht
    · exact absurd rfl ht
    · exact .inl rfl
  · refine ⟨rfl, Nat.lt_add_right _ (Nat.sub_pos_of_lt hg), .inl ⟨Nat.le_refl _, rfl, ?_, ?_⟩⟩
    · simp only [attached, List.map, List.sum_cons, List.sum_nil, if_true, Nat.zero_add, Nat.add_zero]
      exact Nat.sub_add_cancel (Nat.le_of_lt hg)
    · rintro (_ | x) ht
      · exact .inr ⟨rfl, nofun, rfl⟩
      · exact .inl (by simp only [attached, List.map, List.sum_cons, List.sum_nil, if_neg ht.symm, Nat.add_zero])
  · exact ⟨rfl, Nat.lt_add_one_of_le (Nat.zero_le _), .inr ⟨tok, amt, tok2, rfl, rfl, rfl⟩⟩

/-- **Refusals**: zero transfer amount, empty destination address, and unroutable destination
    chains make the transmission fail (and with it the whole transaction, take-token included). -/
theorem transmit_refusals (C : Crypto) (cx : ICtx) (tid src chain addr : Bytes) (tg : TransferAndGas)
    (data : Bytes) (t : Tx) :
    (addr = [] → transmitInterchainTransfer C cx tid src chain addr tg data t = none) ∧
    (tg.transferAmount = 0 → transmitInterchainTransfer C cx tid src chain addr tg data t = none) ∧
    (getCallParams t.w.its chain [] = none → addr ≠ [] → 0 < tg.transferAmount →
       (∀ p, getCallParams t.w.its chain p = none) →
       transmitInterchainTransfer C cx tid src chain addr tg data t = none) := by
  -- each is the contrapositive of what a success needs
  refine ⟨fun h => ?_, fun h => ?_, fun _ _ _ hall => ?_⟩
  · exact eq_none_of_not_some fun _ _ hs => (transmitInterchainTransfer_eq_some hs).1 h
  · exact eq_none_of_not_some fun _ _ hs => Nat.ne_of_gt (transmitInterchainTransfer_eq_some hs).2.1 h
  · refine eq_none_of_not_some fun _ _ hs => ?_
    obtain ⟨-, -, payload, _, -, hr, -⟩ := transmitInterchainTransfer_eq_some hs
    obtain ⟨_, _, _, hg, -⟩ := routeMessage_eq_some hr
    exact nomatch hg.symm.trans (hall payload)

/-- the payload handed to the gateway is the ABI encoding of exactly the transfer record
    (message type 0, this token id, the sender, the destination address, the transfer amount,
    the data) -/
theorem payload_is_the_transfer_record (C : Crypto) (cx : ICtx) (tid src chain addr : Bytes)
    (tg : TransferAndGas) (data : Bytes) (t t' : Tx)
    (h : transmitInterchainTransfer C cx tid src chain addr tg data t = some ((), t')) :
    ∃ payload, Abi.Transfer.encode ⟨0, tid, src, addr, tg.transferAmount, data⟩ = .ok payload ∧
      addr ≠ [] ∧ 0 < tg.transferAmount ∧ ∃ t1, routeMessage C cx chain payload tg.gasToken tg.gasAmount t = some ((), t1) := by
  obtain ⟨ha, hp, payload, t1, he, hr, -⟩ := transmitInterchainTransfer_eq_some h
  exact ⟨payload, he, ha, hp, t1, hr⟩

/-- **A successful outbound transmission (EGLD or no gas) emits exactly**: for a non-zero gas value
    one gas-paid event to the gas service for the routed destination and the hash of the routed
    payload, with the caller (the sender) as refund address; then ONE gateway contract-call event
    whose destination is what the trusted table prescribes (the trusted peer, or the hub with the
    wrapped payload), whose payload is the routed ABI payload and whose payload hash is the hash
    of that payload; then the service's own transfer event.  And exactly the gas value moves
    from the service to the gas service. -/
theorem outbound_message_events (C : Crypto) (cx : ICtx) (tid src chain addr : Bytes) (tg : TransferAndGas)
    (data : Bytes) (t t' : Tx) (hgas : tg.gasToken = none)
    (hkgs : t.w.kind t.w.its.gasService = some .gasService) (hkgw : t.w.kind t.w.its.gateway = some .gateway)
    (h : transmitInterchainTransfer C cx tid src chain addr tg data t = some ((), t')) :
    ∃ payload dc da p,
      Abi.Transfer.encode ⟨0, tid, src, addr, tg.transferAmount, data⟩ = .ok payload ∧
      getCallParams t.w.its chain payload = some (dc, da, p) ∧
      t'.evs = t.evs ++
        (if tg.gasAmount > 0 then [⟨t.w.its.gasService, "native_gas_paid_for_contract_call_event", [cx.self, dc, da],
            [GasService.nativeGasPaidData (C.H p) tg.gasAmount cx.caller]⟩] else []) ++
        [⟨t.w.its.gateway, "contract_call_event", [cx.self, dc, da, C.H p], [p]⟩] ++
        [⟨cx.self, "interchain_transfer_event", [tid, src, if data.isEmpty then zeroHash else C.H data],
            [nestBuf chain ++ nestBuf addr ++ nestBig tg.transferAmount]⟩] ∧
      (∀ x, World.egld t'.w x = World.movedEgld t.w cx.self t.w.its.gasService tg.gasAmount x) := by
  obtain ⟨-, -, payload, t1, he, hr, rfl⟩ := transmitInterchainTransfer_eq_some h
  obtain ⟨dc, da, p, hg, hc⟩ := routeMessage_eq_some hr
  rw [hgas] at hc
  refine ⟨payload, dc, da, p, he, hg, ?_, (callContract_moves hc hkgs hkgw).egld_eq⟩
  simp only [callContract_native_events hc hkgs hkgw]

/-- the transmission part moves exactly the gas value (in the gas token — EGLD or an ESDT) from
    the service to the gas service, and nothing else -/
theorem transmit_moves_exactly_the_gas (C : Crypto) (cx : ICtx) (tid src chain addr : Bytes) (tg : TransferAndGas)
    (data : Bytes) (t t' : Tx)
    (hkgs : t.w.kind t.w.its.gasService = some .gasService) (hkgw : t.w.kind t.w.its.gateway = some .gateway)
    (h : transmitInterchainTransfer C cx tid src chain addr tg data t = some ((), t')) :
    World.Led t.w t'.w (World.pt cx.self tg.gasToken tg.gasAmount) (World.pt t.w.its.gasService tg.gasToken tg.gasAmount) := by
  obtain ⟨-, -, payload, t1, -, hr, rfl⟩ := transmitInterchainTransfer_eq_some h
  exact (routeMessage_moves hr hkgs hkgw).led

/-- **Outbound conservation, exactly.**  A successful `interchainTransfer` /
    `callContractWithInterchainToken` body changes the balances of ALL accounts in ALL assets in
    exactly this way: the service hands the transfer amount of the transfer token to the manager
    of the token id (which keeps it when it is lock/unlock and burns it when it is mint/burn:
    `takeIn`), and the gas value of the gas token to the gas service.  The split `tg` is the one
    `split_shapes` characterises; the transfer token is the token recorded by the manager (so a
    payment in any other token fails).  Nothing else moves. -/
theorem outbound_transfer_ledger (C : Crypto) (cx : ICtx) (tid chain addr : Bytes) (data : Option Bytes) (gas : Nat) (t t' : Tx)
    (tm : Bytes) (st : TokenManager.State) (htm : t.w.its.tmAddress tid = tm) (hst : t.w.tms tm = st)
    (hktm : t.w.kind tm = some .tokenManager)
    (hkgs : t.w.kind t.w.its.gasService = some .gasService) (hkgw : t.w.kind t.w.its.gateway = some .gateway)
    (h : interchainTransfer C cx tid chain addr data gas t = some ((), t')) :
    ∃ tg, getTransferAndGasTokens cx.egld cx.esdt gas = some tg ∧ cx.self = st.service ∧
      tg.transferToken = TokenManager.tokOfBytes st.tokenIdentifier ∧
      World.Led t.w t'.w
        (World.plus (World.pt cx.self tg.transferToken tg.transferAmount) (World.pt cx.self tg.gasToken tg.gasAmount))
        (World.plus (takeIn st tm tg.transferAmount) (World.pt t.w.its.gasService tg.gasToken tg.gasAmount)) := by
  obtain ⟨_, _, hp, h⟩ := bind_eq_some.mp h
  obtain ⟨-, rfl⟩ := requireNotPaused_eq_some.mp hp
  generalize getTransferAndGasTokens cx.egld cx.esdt gas = split at h ⊢
  obtain _ | tg := split
  · cases h
  · obtain ⟨_, t1, htk, h⟩ := bind_eq_some.mp h
    cases data with
    | none => cases h
    | some data =>
      obtain ⟨hsvc, htok, hl1, hkind1⟩ := tmTakeToken_led htk htm hst hktm
      have hits1 := (Frame.h (R := World.Ext) htk).its
      rw [← hits1, ← hkind1] at hkgs hkgw
      have hl2 := transmit_moves_exactly_the_gas C cx tid cx.caller chain addr tg data t1 t' hkgs hkgw h
      rw [hits1] at hl2
      exact ⟨tg, rfl, hsvc, htok, hl1.trans hl2⟩

/-- **The whole transaction.**  A successful `interchainTransfer` transaction by `sender` carrying
    the payment `(egld, esdt)`: the sender loses exactly the attached payments (`payAmt`), the
    service receives them and hands out exactly the transfer amount (to the token manager:
    custody or burn) and the gas value (to the gas service) — for every account and asset. -/
theorem outbound_transaction_ledger (C : Crypto) (w w' : World) (sender its tid chain addr md gasB : Bytes)
    (egld : Nat) (esdt : List (Bytes × Nat × Nat)) (rs : List Bytes) (evs : List Event) (pd : List PendDesc)
    (tm : Bytes) (st : TokenManager.State) (htm : w.its.tmAddress tid = tm) (hst : w.tms tm = st)
    (hk : w.kind its = some .its) (hktm : w.kind tm = some .tokenManager)
    (hkgs : w.kind w.its.gasService = some .gasService) (hkgw : w.kind w.its.gateway = some .gateway)
    (h : World.tx C w sender its "interchainTransfer" egld esdt [tid, chain, addr, md, gasB] = (w', .ok rs evs pd)) :
    ∃ tg, getTransferAndGasTokens egld esdt (topBig gasB) = some tg ∧ its = st.service ∧
      tg.transferToken = TokenManager.tokOfBytes st.tokenIdentifier ∧
      World.Led w w'
        (World.plus (fun x k => if x = sender then World.payAmt egld esdt k else 0)
          (World.plus (World.pt its tg.transferToken tg.transferAmount) (World.pt its tg.gasToken tg.gasAmount)))
        (World.plus (fun x k => if x = its then World.payAmt egld esdt k else 0)
          (World.plus (takeIn st tm tg.transferAmount) (World.pt w.its.gasService tg.gasToken tg.gasAmount))) := by
  obtain ⟨a, t', hp, hc, rfl, -, -⟩ := World.tx_its h hk
  rw [call_interchainTransfer, getI_bind] at hc
  obtain ⟨-, hc⟩ := ite_fail_eq_some.mp hc
  obtain ⟨hi, -⟩ := unit_eq_some.mp hc
  obtain ⟨tg, hsplit, hsvc, htok, hl⟩ := outbound_transfer_ledger C _ tid chain addr _ _ _ _ tm st htm hst hktm hkgs hkgw hi
  exact ⟨tg, hsplit, hsvc, htok, (World.led_pay hp).trans hl⟩

/-- what was attached is exactly transfer amount + gas value, asset by asset (a transaction
    carries EGLD or ESDT payments, not both; the EGLD-as-ESDT gas shape is excluded here because
    the debug VM — and therefore the model — keeps `EGLD-000000` and native EGLD apart, which
    the protocol does not) -/
theorem payment_is_transfer_plus_gas (egld : Nat) (esdt : List (Bytes × Nat × Nat)) (gas : Nat) (tg : TransferAndGas)
    (h : getTransferAndGasTokens egld esdt gas = some tg) (hx : esdt ≠ [] → egld = 0)
    (hne : ∀ tok amt, esdt ≠ [(tok, 0, amt), (Generated.ESDT_EGLD_IDENTIFIER, 0, gas)]) (k : World.Asset) :
    World.payAmt egld esdt k =
      (if k = tg.transferToken then tg.transferAmount else 0) + (if k = tg.gasToken then tg.gasAmount else 0) := by
  rcases (split_shapes egld esdt gas tg).mp h with ⟨rfl, hg, rfl⟩ | ⟨tok, amt, rfl, hg, rfl⟩ | ⟨tok, amt, tok2, rfl, rfl⟩
  · refine (payAmt_payOf none egld k).trans ?_
    split <;> simp [Nat.sub_add_cancel (Nat.le_of_lt hg)]
  · cases hx (List.cons_ne_nil _ _)
    refine (payAmt_payOf (some tok) amt k).trans ?_
    split <;> simp [Nat.sub_add_cancel (Nat.le_of_lt hg)]
  · cases hx (List.cons_ne_nil _ _)
    have h2 : tok2 ≠ Generated.ESDT_EGLD_IDENTIFIER := fun e => hne tok amt (by rw [e])
    unfold World.payAmt
    rw [if_neg h2, ite_self]
    -- the sum over the two payments computes to the right-hand side
    exact Nat.zero_add _

/-- **The service's own balances are unchanged** by a successful outbound transfer: what it
    received from the sender is exactly what it handed to the token manager and the gas service
    (service ≠ sender, manager, gas service). -/
theorem service_balances_unchanged (C : Crypto) (w w' : World) (sender its tid chain addr md gasB : Bytes)
    (egld : Nat) (esdt : List (Bytes × Nat × Nat)) (rs : List Bytes) (evs : List Event) (pd : List PendDesc)
    (tm : Bytes) (st : TokenManager.State) (htm : w.its.tmAddress tid = tm) (hst : w.tms tm = st)
    (hk : w.kind its = some .its) (hktm : w.kind tm = some .tokenManager)
    (hkgs : w.kind w.its.gasService = some .gasService) (hkgw : w.kind w.its.gateway = some .gateway)
    (hx : esdt ≠ [] → egld = 0)
    (hne : ∀ tok amt, esdt ≠ [(tok, 0, amt), (Generated.ESDT_EGLD_IDENTIFIER, 0, topBig gasB)])
    (hs : its ≠ sender)
    (h : World.tx C w sender its "interchainTransfer" egld esdt [tid, chain, addr, md, gasB] = (w', .ok rs evs pd))
    (k : World.Asset) : World.balanceOf w' its k = World.balanceOf w its k := by
  obtain ⟨tg, hsplit, _, _, hl⟩ := outbound_transaction_ledger C w w' sender its tid chain addr md gasB egld esdt rs evs pd
    tm st htm hst hk hktm hkgs hkgw h
  have hne1 : its ≠ tm := by
    rintro rfl
    cases hk.symm.trans hktm
  have hne2 : its ≠ w.its.gasService := by
    rintro rfl
    cases hk.symm.trans hkgs
  have := hl its k
  simp only [World.plus, World.pt, takeIn_of_ne hne1, hs, hne2, if_false, if_true, true_and, false_and, Nat.zero_add,
    Nat.add_zero, payment_is_transfer_plus_gas egld esdt (topBig gasB) tg hsplit hx hne k] at this
  exact Nat.add_right_cancel this

theorem egld_as_esdt_identifier :
    Generated.ESDT_EGLD_IDENTIFIER = [69, 71, 76, 68, 45, 48, 48, 48, 48, 48, 48] := rfl

/-! ### Non-vacuity (tests) -/
example : getTransferAndGasTokens 0 [([1], 0, 100), ([2], 0, 7)] 7 = some ⟨some [1], 100, some [2], 7⟩ := by
  decide
example : getTransferAndGasTokens 100 [] 100 = none := by decide

end Axelar.Props.C05
