/-
  C10 — Token manager custody, mint authority and role transfers are exact and gated.
-/
import Axelar.Proofs.TokenManagerProofs
namespace Axelar.Props.C10
open Axelar Axelar.TokenManager Codec

/-- **Tokens move only through four endpoints, each gated**: give/take by the bound service,
    mint/burn by a minter of a native manager whose token is set.  (Any successful call with a
    chain effect is one of these.) -/
theorem effects_are_gated (st : State) (ctx : Ctx) (func : String) (args : List Bytes) (out : Out)
    (h : call st ctx func args = .ok out) (hne : out.effects ≠ []) :
    ((func = "giveToken" ∨ func = "takeToken") ∧ ctx.caller = st.service) ∨
    ((func = "mint" ∨ func = "burn") ∧ st.implType = 0 ∧
      intersects (st.roles ctx.caller) MINTER = true ∧ st.tokenIdentifier.isEmpty = false) := by
  cases call_ok h with
  | giveToken hf _ hg => exact .inl ⟨.inl hf, (giveToken_eq_ok hg).1⟩
  | takeToken hf ht => exact .inl ⟨.inr hf, (takeToken_eq_ok ht).1⟩
  | setFlowLimit _ _ hs => exact absurd (setFlowLimit_eq_ok hs).2.2.1 hne
  | mint hf _ hm =>
    obtain ⟨h0, hr, hs, _⟩ := mint_eq_ok hm
    exact .inr ⟨.inl hf, h0, hr, hs⟩
  | burn hf hb =>
    obtain ⟨h0, hr, hs, _⟩ := burn_eq_ok hb
    exact .inr ⟨.inr hf, h0, hr, hs⟩
  | deploy _ hd => exact absurd (deployInterchainToken_eq_ok hd).2.2.2.2.2 hne
  | role _ _ hro =>
    obtain ⟨_, _, he⟩ := roleOut_eq_ok hro
    exact absurd he hne
  | view _ hv => exact absurd (view_eq_ok hv).2.1 hne

/-- net change of the manager's own holdings of token `t` caused by a list of effects -/
def netEffect (t : Bytes) : List Eff → Int
  | [] => 0
  | .send _ tok amt :: r => (if tok = some t then -(amt : Int) else 0) + netEffect t r
  | .mint tok amt :: r => (if tok = t then (amt : Int) else 0) + netEffect t r
  | .burn tok amt :: r => (if tok = t then -(amt : Int) else 0) + netEffect t r

/-- **Lock/unlock managers**: giving sends exactly `amount` of the bound token to the
    destination (holdings − amount); taking keeps the attached payment (holdings + amount). -/
theorem lock_unlock_custody (st : State) (ctx : Ctx) (hk : isMintBurnKind st.implType = false) :
    (∀ dest amount out, giveToken st ctx dest amount = .ok out →
        out.effects = [.send dest (tokOfBytes st.tokenIdentifier) amount]) ∧
    (∀ out, takeToken st ctx = .ok out → out.effects = [] ∧
        ∃ amount, requireCorrectToken st ctx = .ok (tokOfBytes st.tokenIdentifier, amount) ∧
          out.results = [encNat amount]) := by
  constructor
  · intro dest amount out h
    rcases (giveToken_eq_ok h).2.2.2.2 with ⟨h1, _⟩ | ⟨_, h2⟩
    · cases hk.symm.trans h1
    · exact h2
  · intro out h
    obtain ⟨_, _, tok, amount, hr, _, hres, hcase⟩ := takeToken_eq_ok h
    rcases hcase with ⟨h1, _⟩ | ⟨_, h2⟩
    · cases hk.symm.trans h1
    · rw [(requireCorrectToken_eq_ok hr).1] at hr
      exact ⟨h2, amount, hr, hres⟩

/-- **Mint/burn managers hold nothing**: giving mints `amount` and sends the same `amount`
    away; taking burns exactly the received amount. -/
theorem mint_burn_custody (st : State) (ctx : Ctx) (hk : isMintBurnKind st.implType = true) :
    (∀ dest amount out, giveToken st ctx dest amount = .ok out →
        ∃ t, tokOfBytes st.tokenIdentifier = some t ∧
          out.effects = [.mint t amount, .send dest (some t) amount] ∧ netEffect t out.effects = 0) ∧
    (∀ out, takeToken st ctx = .ok out →
        ∃ t amount, requireCorrectToken st ctx = .ok (some t, amount) ∧
          out.effects = [.burn t amount] ∧ netEffect t out.effects = -(amount : Int)) := by
  constructor
  · intro dest amount out h
    rcases (giveToken_eq_ok h).2.2.2.2 with ⟨_, t, ht, he⟩ | ⟨h1, _⟩
    · refine ⟨t, ht, he, ?_⟩
      simp only [he, netEffect, reduceIte, Int.add_zero, Int.add_right_neg]
    · cases hk.symm.trans h1
  · intro out h
    obtain ⟨_, _, tok, amount, hr, _, _, hcase⟩ := takeToken_eq_ok h
    rcases hcase with ⟨_, t, rfl, he⟩ | ⟨h1, _⟩
    · refine ⟨t, amount, hr, he, ?_⟩
      simp only [he, netEffect, reduceIte, Int.add_zero]
    · cases hk.symm.trans h1

/-- `transfer_role`: needs the role at the source, removes it there, adds it at the target
    (when source and target differ the source no longer has it). -/
theorem transferRole_effect (st st' : State) (src dst : Bytes) (r : Roles) (evs : List Ev)
    (h : transferRole st src dst r = .ok (st', evs)) :
    contains (st.roles src) r = true ∧
    st'.roles dst = insert (if dst = src then remove (st.roles src) r else st.roles dst) r ∧
    (dst ≠ src → st'.roles src = remove (st.roles src) r ∧ intersects (st'.roles src) r = false) ∧
    (∀ x, x ≠ src → x ≠ dst → st'.roles x = st.roles x) ∧ st'.proposed = st.proposed := by
  obtain ⟨hc, rfl⟩ := transferRole_eq_ok h
  refine ⟨hc, upd_same _ _ _, fun hd => ?_, fun x h1 h2 => (upd_other h2 _ _).trans (upd_other h1 _ _), rfl⟩
  simp only [addRole, removeRole, upd_other hd.symm, upd_same, intersects_remove, and_self]

/-- `accept_role`: only for exactly the proposed (non-empty) roles of exactly this
    (proposer, acceptor) pair; the proposal is consumed. -/
theorem acceptRole_effect (st st' : State) (src dst : Bytes) (r : Roles) (evs : List Ev)
    (h : acceptRole st src dst r = .ok (st', evs)) :
    st.proposed (src, dst) = r ∧ r.isEmpty = false ∧ st'.proposed (src, dst) = {} ∧
    contains (st.roles src) r = true := by
  obtain ⟨hp, hne, ht⟩ := acceptRole_eq_ok h
  obtain ⟨hc, rfl⟩ := transferRole_eq_ok ht
  exact ⟨hp, hne, if_pos rfl, hc⟩

/-- **Roles change only through the listed operations.**  If a successful call changes the
    roles of any account, it is one of the nine role endpoints (with the guard listed in
    `RoleStep`: the operator for flow-limiter management and operatorship transfer/proposal, a
    minter for mintership transfer/proposal, nothing for the two `accept…` — those are gated
    by `acceptRole_effect`), or the token issuance step `deployInterchainToken` (which can only
    add the minter role, and only when called by the service or a minter). -/
theorem role_change_characterisation (st : State) (ctx : Ctx) (func : String) (args : List Bytes)
    (out : Out) (h : call st ctx func args = .ok out) (a : Bytes)
    (hne : out.st.roles a ≠ st.roles a) :
    (∃ r, RoleStep st ctx func r ∧ roleOut r = .ok out) ∨
    (func = "deployInterchainToken" ∧
      (ctx.caller = st.service ∨ intersects (st.roles ctx.caller) MINTER = true) ∧
      out.st.roles a = TokenManager.insert (st.roles a) MINTER) := by
  cases call_ok h with
  | giveToken _ _ hg =>
    obtain ⟨_, hfl, _⟩ := giveToken_eq_ok hg
    obtain ⟨f, e1, _⟩ := addFlowIn_eq_ok hfl
    rw [e1] at hne
    exact absurd rfl hne
  | takeToken _ ht =>
    obtain ⟨_, _, tok, amount, _, hfl, _, _⟩ := takeToken_eq_ok ht
    obtain ⟨f, e1, _⟩ := addFlowOut_eq_ok hfl
    rw [e1] at hne
    exact absurd rfl hne
  | setFlowLimit _ _ hs =>
    rw [(setFlowLimit_eq_ok hs).2.1] at hne
    exact absurd rfl hne
  | mint _ _ hm =>
    rw [(mint_eq_ok hm).2.2.2.1] at hne
    exact absurd rfl hne
  | burn _ hb =>
    rw [(burn_eq_ok hb).2.2.2.1] at hne
    exact absurd rfl hne
  | @deploy m _ _ _ hf hd =>
    obtain ⟨_, _, _, hcaller, e, _⟩ := deployInterchainToken_eq_ok hd
    refine .inr ⟨hf, hcaller, ?_⟩
    -- MINTER is added at the manager itself and then at the nominee: `a` is one of them (or both)
    rw [e] at hne ⊢
    dsimp only [addRole, upd] at hne ⊢
    by_cases h1 : a = m.getD zeroAddr
    · subst h1
      rw [if_pos rfl]
      by_cases h2 : m.getD zeroAddr = ctx.self
      · rw [if_pos h2, h2]
        exact insert_idem _ _
      · rw [if_neg h2]
    · rw [if_neg h1] at hne ⊢
      by_cases h2 : a = ctx.self
      · rw [if_pos h2, h2]
      · rw [if_neg h2] at hne
        exact absurd rfl hne
  | role hr _ hro => exact .inl ⟨_, hr, hro⟩
  | view _ hv =>
    rw [(view_eq_ok hv).1] at hne
    exact absurd rfl hne

/-- the role bits are the ones in roles.rs -/
theorem role_bits : Generated.ROLE_MINTER = 1 ∧ Generated.ROLE_OPERATOR = 2 ∧ Generated.ROLE_FLOW_LIMITER = 4 := by
  decide

/-! ### Non-vacuity (tests) -/
example : ∃ st', transferRole { roles := fun a => if a = [1] then OPERATOR else {} } [1] [2] OPERATOR =
    .ok (st', [⟨"roles_removed_event", [[1]], [roleBytes OPERATOR]⟩, ⟨"roles_added_event", [[2]], [roleBytes OPERATOR]⟩]) :=
  ⟨_, rfl⟩

end Axelar.Props.C10
