/-
  C17 — ITS never strands user value when an asynchronous step does not go through.
  Full strength does NOT hold on the unchanged code (finding F2): see `…_strands_gas`.
-/
import Axelar.Proofs.ItsLedger
namespace Axelar.Props.C17
open Axelar Axelar.ItsW Axelar.Its Codec

/-- **Error or non-fungible reply: the gas value goes back to the original caller** and nothing
    else happens (no event, no message, service storage untouched). -/
theorem refund_on_error_or_non_fungible (C : Crypto) (cx : ICtx) (tok : Bytes) (gas : Nat) (caller : Bytes)
    (ok : Bool) (vals : List Bytes) (t : Tx)
    (h : ok = false ∨ parseTokenProperties vals = some none) :
    registerTokenMetadataCallback C cx tok gas caller ok vals t = refundGas cx caller gas t := by
  rcases h with h | h
  · simp [registerTokenMetadataCallback, h]
  · cases ok <;> simp [registerTokenMetadataCallback, h]

theorem refund_on_error_or_non_fungible_deploy {ok : Bool} {vals : List Bytes}
    (h : ok = false ∨ parseTokenProperties vals = some none) (C : Crypto) (cx : ICtx) (salt chain sym dm : Bytes)
    (gas : Nat) (caller : Bytes) (t : Tx) :
    deployRemoteTokenCallback C cx salt chain sym dm gas caller ok vals t = refundGas cx caller gas t := by
  rcases h with h | h
  · simp [deployRemoteTokenCallback, h]
  · cases ok <;> simp [deployRemoteTokenCallback, h]

/-- the skeleton the two lookup callbacks share, run successfully: the refund, or the fungible branch `m` -/
theorem lookup_callback_eq_some {cx : ICtx} {caller : Bytes} {gas : Nat} {ok : Bool} {vals : List Bytes}
    {m : Bytes → Nat → M Unit} {t t' : Tx}
    (h : (if !ok then refundGas cx caller gas else
          match parseTokenProperties vals with
          | none => fail
          | some none => refundGas cx caller gas
          | some (some (name, dec)) => m name dec) t = some ((), t')) :
    refundGas cx caller gas t = some ((), t') ∨
    ∃ name dec, ok = true ∧ parseTokenProperties vals = some (some (name, dec)) ∧ m name dec t = some ((), t') := by
  cases ok with
  | false => exact .inl h
  | true =>
    generalize parseTokenProperties vals = r at h ⊢
    obtain _ | _ | ⟨name, dec⟩ := r
    · cases h
    · exact .inl h
    · exact .inr ⟨name, dec, rfl, rfl, h⟩

/-- the refund moves exactly `gas` EGLD from the service to the caller (or nothing for zero) -/
theorem refund_exact (cx : ICtx) (caller : Bytes) (gas : Nat) (t t' : Tx)
    (h : refundGas cx caller gas t = some ((), t')) :
    (gas = 0 ∧ t' = t) ∨
    (0 < gas ∧ World.send t.w cx.self caller none gas = some t'.w ∧ t'.evs = t.evs ∧ t'.pend = t.pend) := by
  unfold refundGas at h
  split at h
  · rename_i h0
    cases h
    exact Or.inl ⟨h0, rfl⟩
  · rename_i h0
    split at h
    · rename_i w' hs
      cases h
      exact Or.inr ⟨Nat.pos_of_ne_zero h0, hs, rfl, rfl⟩
    · cases h

/-- **FINDING F2 (metadata).**  For a fungible reply, when the hub's trusted address is unset
    at callback time the callback transaction FAILS, whatever the gas value — so the EGLD taken
    by the first transaction stays in the service. -/
theorem metadata_callback_with_hub_unset_strands_gas (C : Crypto) (cx : ICtx) (tok : Bytes) (gas : Nat)
    (caller : Bytes) (vals : List Bytes) (name : Bytes) (dec : Nat) (t : Tx)
    (hp : parseTokenProperties vals = some (some (name, dec)))
    (hhub : t.w.its.trusted hubChain = []) :
    registerTokenMetadataCallback C cx tok gas caller true vals t = none := by
  simp only [registerTokenMetadataCallback, hp, Bool.not_true, Bool.false_eq_true, if_false,
    registerTokenMetadataRaw, run_bind, run_emit]
  cases Abi.Metadata.encode ⟨Generated.MESSAGE_TYPE_REGISTER_TOKEN_METADATA, tok, UInt8.ofNat dec⟩ with
  | error e => simp
  | ok payload =>
    simp only [getI_bind, hhub]
    exact eq_none_of_not_some fun _ _ hs => (callContract_eq_some hs).1 rfl

/-- **FINDING F2 (remote deploy).**  For a fungible reply, when the destination chain has no
    route at callback time (untrusted / removed / the hub chain itself / hub unset for a routed
    chain) or equals the own chain, or the service is paused, the callback FAILS. -/
theorem remote_deploy_callback_without_route_strands_gas (C : Crypto) (cx : ICtx)
    (salt chain sym dm : Bytes) (gas : Nat) (caller : Bytes) (vals : List Bytes) (name : Bytes) (dec : Nat) (t : Tx)
    (hp : parseTokenProperties vals = some (some (name, dec)))
    (hne : chain ≠ [])
    (hbad : t.w.its.paused = true ∨ t.w.its.chainName = chain) :
    deployRemoteTokenCallback C cx salt chain sym dm gas caller true vals t = none := by
  have : deployInterchainTokenRaw C cx salt chain name sym dec dm gas t = none := by
    simp only [deployInterchainTokenRaw, run_bind, run_requireNotPaused]
    rcases hbad with hb | hb
    · simp [hb]
    · cases t.w.its.paused
      · simp [hne, hb]
      · simp
  simp [deployRemoteTokenCallback, hp, this]

/-- **Partial (what does hold).**  If the callback transaction succeeds, then either the value
    was refunded (error / non-fungible) or the fungible branch ran to completion — which includes
    the gas-service payment and the gateway call (`registerTokenMetadataRaw` / `deployInterchainTokenRaw`
    succeeded). -/
theorem successful_callback_refunds_or_forwards_partial (C : Crypto) (cx : ICtx) (tok : Bytes) (gas : Nat)
    (caller : Bytes) (ok : Bool) (vals : List Bytes) (t t' : Tx)
    (h : registerTokenMetadataCallback C cx tok gas caller ok vals t = some ((), t')) :
    refundGas cx caller gas t = some ((), t') ∨
    ∃ name dec, ok = true ∧ parseTokenProperties vals = some (some (name, dec)) ∧
      registerTokenMetadataRaw C cx tok dec gas t = some ((), t') :=
  lookup_callback_eq_some (m := fun _ dec => registerTokenMetadataRaw C cx tok dec gas) h

theorem refund_moves {cx : ICtx} {caller : Bytes} {gas : Nat} {t t' : Tx}
    (h : refundGas cx caller gas t = some ((), t')) : World.Moves t.w t'.w cx.self caller none gas := by
  rcases refund_exact cx caller gas t t' h with ⟨rfl, rfl⟩ | ⟨-, hs, -, -⟩
  · exact .zero ..
  · exact .of_send hs

/-- `metadata_callback_moves_exactly_the_gas_value` for every account and asset: exactly the gas value goes
    from the service to the original caller or to the gas service -/
theorem metadata_callback_moves {C : Crypto} {cx : ICtx} {tok : Bytes} {gas : Nat} {caller : Bytes} {ok : Bool}
    {vals : List Bytes} {t t' : Tx}
    (h : registerTokenMetadataCallback C cx tok gas caller ok vals t = some ((), t'))
    (hkgs : t.w.kind t.w.its.gasService = some .gasService) (hkgw : t.w.kind t.w.its.gateway = some .gateway) :
    ∃ target, (target = caller ∨ target = t.w.its.gasService) ∧ World.Moves t.w t'.w cx.self target none gas := by
  rcases successful_callback_refunds_or_forwards_partial C cx tok gas caller ok vals t t' h with hr | ⟨name, dec, -, -, hf⟩
  · exact ⟨caller, .inl rfl, refund_moves hr⟩
  · obtain ⟨_, _, he, hf⟩ := bind_eq_some.mp hf
    cases he
    obtain ⟨payload, -, hf⟩ := encode_match hf
    rw [getI_bind] at hf
    -- `hf` starts after the `emit`: its world is `t.w` only up to reduction, so the goal must not fix the lemma's `t`
    exact ⟨_, .inr rfl, (callContract_moves hf hkgs hkgw :)⟩

/-- **A successful metadata callback moves exactly the gas value out of the service**: to the
    original caller (error / non-fungible reply) or to the gas service (fungible reply, together
    with the gateway call) — for every reply, gas value and world state.  Nobody else's EGLD
    balance changes. -/
theorem metadata_callback_moves_exactly_the_gas_value (C : Crypto) (cx : ICtx) (tok : Bytes) (gas : Nat)
    (caller : Bytes) (ok : Bool) (vals : List Bytes) (t t' : Tx)
    (hkgs : t.w.kind t.w.its.gasService = some .gasService) (hkgw : t.w.kind t.w.its.gateway = some .gateway)
    (h : registerTokenMetadataCallback C cx tok gas caller ok vals t = some ((), t')) :
    gas ≤ World.egld t.w cx.self ∧
    ((∀ x, World.egld t'.w x = World.movedEgld t.w cx.self caller gas x) ∨
     (∀ x, World.egld t'.w x = World.movedEgld t.w cx.self t.w.its.gasService gas x)) := by
  obtain ⟨target, rfl | rfl, hm⟩ := metadata_callback_moves h hkgs hkgw
  · exact ⟨hm.le, .inl hm.egld_eq⟩
  · exact ⟨hm.le, .inr hm.egld_eq⟩

/-- … so **the service keeps none of it**: its own EGLD balance after the callback is its balance
    before minus the gas value the first transaction had brought in. -/
theorem metadata_callback_service_keeps_nothing (C : Crypto) (cx : ICtx) (tok : Bytes) (gas : Nat)
    (caller : Bytes) (ok : Bool) (vals : List Bytes) (t t' : Tx)
    (hkgs : t.w.kind t.w.its.gasService = some .gasService) (hkgw : t.w.kind t.w.its.gateway = some .gateway)
    (hc : caller ≠ cx.self) (hg : t.w.its.gasService ≠ cx.self)
    (h : registerTokenMetadataCallback C cx tok gas caller ok vals t = some ((), t')) :
    World.egld t'.w cx.self + gas = World.egld t.w cx.self := by
  obtain ⟨target, rfl | rfl, hm⟩ := metadata_callback_moves h hkgs hkgw
  · exact hm.led.src hc.symm
  · exact hm.led.src hg.symm

/-- **A successful remote-deployment callback moves exactly the gas value out of the service**:
    to the original caller (error / non-fungible reply) or to the gas service (fungible reply,
    together with the gateway message of the deployment) — for every account and asset; nothing
    else moves.  (`chain ≠ []`: a remote deployment names a destination chain.) -/
theorem remote_deploy_callback_moves_exactly_the_gas_value {C : Crypto} {cx : ICtx}
    {salt chain sym dm : Bytes} {gas : Nat} {caller : Bytes} {ok : Bool} {vals : List Bytes} {t t' : Tx}
    (h : deployRemoteTokenCallback C cx salt chain sym dm gas caller ok vals t = some ((), t'))
    (hkgs : t.w.kind t.w.its.gasService = some .gasService) (hkgw : t.w.kind t.w.its.gateway = some .gateway)
    (hchain : chain ≠ []) :
    ∃ target, (target = caller ∨ target = t.w.its.gasService) ∧
      World.Moves t.w t'.w cx.self target none gas := by
  obtain hr | ⟨name, dec, -, -, hf⟩ := lookup_callback_eq_some
    (m := fun name dec => do let _ ← deployInterchainTokenRaw C cx salt chain name sym dec dm gas) h
  · exact ⟨caller, .inl rfl, refund_moves hr⟩
  · obtain ⟨_, _, hd, -, rfl⟩ := bind_eq_some.mp hf
    exact ⟨_, .inr rfl, deployInterchainTokenRaw_remote_moves hd hkgs hkgw hchain⟩

/-! ### Non-vacuity (tests) -/
example : asciiToU8 [49, 56] 0 = some 18 ∧ asciiToU8 [50, 53, 54] 0 = none := by decide

end Axelar.Props.C17
