/-
  C20 — ITS pause and privileged operations are effective and correctly gated.
-/
import Axelar.Proofs.ItsHistory
import Axelar.Generated.ItsEndpoints
namespace Axelar.Props.C20
open Axelar Axelar.ItsW Axelar.Its Codec

/-! ### While paused every pausable operation fails (= the transaction is rolled back: no state
    change, no value moved), for all callers, arguments, payments and world states. -/

theorem execute_paused (C : Crypto) (cx : ICtx) (a b c d : Bytes) (t : Tx) (h : t.w.its.paused = true) :
    execute C cx a b c d t = none :=
  (fp_execute C cx a b c d).h t h

theorem interchainTransfer_paused (C : Crypto) (cx : ICtx) (tid ch ad : Bytes) (data : Option Bytes)
    (gas : Nat) (t : Tx) (h : t.w.its.paused = true) :
    interchainTransfer C cx tid ch ad data gas t = none :=
  (fp_interchainTransfer C cx tid ch ad data gas).h t h

theorem deployInterchainTokenRaw_paused (C : Crypto) (cx : ICtx) (s ch n sy : Bytes) (d : Nat) (m : Bytes)
    (v : Nat) (t : Tx) (h : t.w.its.paused = true) :
    deployInterchainTokenRaw C cx s ch n sy d m v t = none :=
  (fp_deployInterchainTokenRaw C cx s ch n sy d m v).h t h

theorem registerCustomTokenRaw_paused (C : Crypto) (cx : ICtx) (s tok : Bytes) (ty : Nat) (lp : Bytes)
    (t : Tx) (h : t.w.its.paused = true) : registerCustomTokenRaw C cx s tok ty lp t = none :=
  (fp_registerCustomTokenRaw C cx s tok ty lp).h t h

theorem linkTokenRaw_paused (C : Crypto) (cx : ICtx) (s ch dt : Bytes) (ty : Nat) (lp : Bytes) (g : Nat)
    (t : Tx) (h : t.w.its.paused = true) : linkTokenRaw C cx s ch dt ty lp g t = none :=
  (fp_linkTokenRaw C cx s ch dt ty lp g).h t h

theorem deployRemoteInterchainTokenRaw_paused (C : Crypto) (cx : ICtx) (s ch dm sender : Bytes)
    (t : Tx) (h : t.w.its.paused = true) : deployRemoteInterchainTokenRaw C cx s ch dm sender t = none :=
  (fp_deployRemoteInterchainTokenRaw C cx s ch dm sender).h t h

theorem factoryDeployInterchainToken_paused (C : Crypto) (cx : ICtx) (salt n sy : Bytes) (d sup : Nat)
    (m : Bytes) (t : Tx) (h : t.w.its.paused = true) :
    factoryDeployInterchainToken C cx salt n sy d sup m t = none :=
  (fp_factoryDeployInterchainToken C cx salt n sy d sup m).h t h

/-- steps before a pause check cannot disturb it: synchronous sub-calls go to other contracts,
    which never write the service's own storage (`subcall_ext`, Proofs/ItsMonad.lean) -/
theorem subcalls_do_not_touch_service_storage (C : Crypto) (cx : ICtx) (dst : Bytes) (f : String) (e : Nat)
    (es : List (Bytes × Nat × Nat)) (args : List Bytes) (t t' : Tx) (rs : List Bytes)
    (h : subcall C cx dst f e es args t = some (rs, t')) : t'.w.its = t.w.its :=
  (subcall_ext h).its

/-! ### Tie to the source: which Rust functions start with the pause check, and that every
    pausable endpoint reaches one of them -/

def pausableEndpoints : List String := ItsW.pausableEndpoints

/-- the endpoint's body starts with the check, or calls a function that does (one level of
    delegation through another endpoint function is followed) -/
def reachesPauseCheck (e : Generated.Endpoint) : Bool :=
  e.firstCall == "require_not_paused" ||
  e.calls.any (fun c => Generated.startsWithPauseCheck.contains c) ||
  e.calls.any (fun c => Generated.itsEndpoints.any fun e2 =>
    e2.rustFn == c && e2.calls.any (fun c2 => Generated.startsWithPauseCheck.contains c2))

theorem every_pausable_endpoint_reaches_the_check :
    ∀ n ∈ pausableEndpoints, ∃ e ∈ Generated.itsEndpoints, e.name = n ∧ reachesPauseCheck e = true := by
  decide +kernel

/-- the endpoints that do their work themselves START with the pause check (directly, or by first calling a
    function that does) — stated through the exported endpoint names, so that renaming a Rust function is harmless -/
theorem direct_endpoints_start_with_the_check :
    ∀ n ∈ ["execute", "interchainTransfer", "callContractWithInterchainToken", "deployInterchainToken"],
      ∃ e ∈ Generated.itsEndpoints, e.name = n ∧ Generated.startsWithPauseCheck.contains e.rustFn = true := by
  decide +kernel

/-- the second transaction of a remote deployment (the callback of the token lookup) reaches a function that
    starts with the pause check before it sends anything -/
theorem a_callback_reaches_the_check :
    ∃ cb ∈ Generated.itsCallbacks, cb.calls.any (fun c => Generated.startsWithPauseCheck.contains c) = true := by
  decide +kernel

/-- owner-only and operator-only annotations in the source -/
theorem privileged_annotations :
    (∀ e ∈ Generated.itsEndpoints, (e.name = "setTrustedAddress" ∨ e.name = "removeTrustedAddress") → e.onlyOwner = true) ∧
    (∀ e ∈ Generated.itsEndpoints, e.name = "setFlowLimits" → e.firstCall = "only_operator") := by
  decide +kernel

/-! ### At the level of the endpoint dispatcher and of the chain -/

/-- **While paused, each of the ten pausable endpoints fails** — for every caller, argument list,
    payment and world state (model of the whole dispatcher, not of one flow). -/
theorem paused_endpoint_fails (C : Crypto) (cx : ICtx) (func : String) (args : List Bytes) (t : Tx)
    (hf : func ∈ pausableEndpoints) (hp : t.w.its.paused = true) : call C cx func args t = none :=
  call_paused C cx func args t hf hp

/-- … and therefore a transaction that calls one of them while the service is paused is rolled
    back as a whole: **the world after it is the world before it** (no state changed, no value
    moved — not even the attached payment), whoever sends it and whatever it carries. -/
theorem paused_transaction_changes_nothing (C : Crypto) (w : World) (src dst : Bytes) (func : String)
    (egld : Nat) (esdt : List (Bytes × Nat × Nat)) (args : List Bytes)
    (hk : w.kind dst = some .its) (hp : w.its.paused = true) (hf : func ∈ pausableEndpoints) :
    World.tx C w src dst func egld esdt args = (w, .fail) := by
  refine World.tx_fail_of_not_ok fun w' rs evs pd h => ?_
  obtain ⟨a, t', -, hrun, -⟩ := World.tx_its h hk
  rw [call_paused C _ func args _ hf hp] at hrun
  cases hrun

/-- **Only the owner can pause, unpause, or add and remove trusted addresses**: a successful call
    of one of these four endpoints was made by the contract's owner. -/
theorem owner_operation_needs_owner (C : Crypto) (cx : ICtx) (func : String) (args : List Bytes) (t : Tx)
    (r : List Bytes) (t' : Tx) (h : call C cx func args t = some (r, t')) (hf : func ∈ ownerOps) :
    cx.caller = cx.owner :=
  ((call_guard C cx func args).h h).owner hf

/-- **Only holders of the service's operator role can set flow limits.** -/
theorem setFlowLimits_needs_operator (C : Crypto) (cx : ICtx) (args : List Bytes) (t : Tx) (r : List Bytes)
    (t' : Tx) (h : call C cx "setFlowLimits" args t = some (r, t')) : isOperator t.w.its cx.caller = true :=
  ((call_guard C cx "setFlowLimits" args).h h).operator rfl

/-- **Over every schedule**: if an operation changed the pause flag or the trusted-address table,
    it was a call of one of the four owner endpoints of the service made by the service's owner
    (as a transaction, or as the delivery of a call the owner's contract had registered). -/
theorem pause_flag_and_trusted_table_change_only_by_owner (C : Crypto) (w : World) (op : World.Op)
    (h : (World.step C w op).its.paused ≠ w.its.paused ∨ (World.step C w op).its.trusted ≠ w.its.trusted) :
    ∃ src dst func, World.Runs w op src dst func ∧ w.kind dst = some .its ∧ src = w.owner dst ∧
      func ∈ ownerOps :=
  (World.step_change C w op).owner.resolve_left fun e => h.elim (· e.1) (· e.2)

/-- **After unpausing, behaviour is as before**: the service's behaviour is a function of its
    storage, and pause followed by unpause restores the storage exactly. -/
theorem pause_then_unpause_restores (C : Crypto) (cx : ICtx) (t : Tx) (ho : cx.caller = cx.owner)
    (hn : notPayable cx = true) (hu : t.w.its.paused = false) :
    ∃ t1 t2, call C cx "pause" [] t = some ([], t1) ∧ t1.w.its.paused = true ∧
      call C cx "unpause" [] t1 = some ([], t2) ∧ t2.w.its = t.w.its := by
  have hc : (cx.caller == cx.owner) = true := beq_iff_eq.mpr ho
  refine ⟨{ t with w := { t.w with its := { t.w.its with paused := true } } },
          { t with w := { t.w with its := { t.w.its with paused := false } } }, ?_, rfl, ?_, ?_⟩
  -- the dispatcher at a literal endpoint name reduces to that endpoint's arm
  · have : call C cx "pause" [] t = (if !notPayable cx then fail else
        ItsW.unit (require (cx.caller == cx.owner) >>= fun _ => setI _)) t := rfl
    rw [this, hn, hc]
    rfl
  · have : ∀ t1, call C cx "unpause" [] t1 = (if !notPayable cx then fail else
        ItsW.unit (require (cx.caller == cx.owner) >>= fun _ => setI _)) t1 := fun _ => rfl
    rw [this, hn, hc]
    rfl
  · rw [← hu]

/-! ### Non-vacuity (test) -/
example : requireNotPaused { w := { its := { paused := false } } } ≠ none := by
  simp [run_requireNotPaused]

end Axelar.Props.C20
