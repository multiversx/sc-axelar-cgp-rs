/-
  C13 — ITS accepts and sends messages only along trusted routes, hub wrapping included.
-/
import Axelar.Proofs.ItsHistory
import Axelar.Proofs.ItsInbound
import Axelar.Proofs.ItsLedger
namespace Axelar.Props.C13
open Axelar Axelar.Its Axelar.ItsW Codec

/-- `is_trusted_address`: set and equal -/
theorem trusted_iff (st : State) (chain addr : Bytes) :
    isTrustedAddress st chain addr = true ↔ st.trusted chain ≠ [] ∧ addr = st.trusted chain := by
  simp [isTrustedAddress]

/-- **Inbound, wrapped.**  A hub-wrapped message is unwrapped only when it arrives from the hub
    chain and names an original chain whose trusted address is the hub routing identifier; the
    result is the inner payload, its own message type, and that original chain. -/
theorem unwrap_only_from_hub (st : State) (sourceChain payload : Bytes) (mt : Nat) (orig inner : Bytes)
    (h : getExecuteParams st sourceChain payload = some (mt, orig, inner))
    (hw : Abi.getMessageType payload = .ok Generated.MESSAGE_TYPE_RECEIVE_FROM_HUB) :
    sourceChain = hubChain ∧ st.trusted orig = hubRouting ∧
    ∃ d, Abi.Hub.decode payload = .ok d ∧ orig = d.destinationChain ∧ inner = d.payload ∧
      Abi.getMessageType inner = .ok mt := by
  simp only [getExecuteParams, hw, beq_self_eq_true, if_true, Option.ite_none_left_eq_some, bne_iff_ne,
    Decidable.not_not, Bool.not_eq_true'] at h
  obtain ⟨hs, h⟩ := h
  cases hd : Abi.Hub.decode payload with
  | error e => rw [hd] at h; cases h
  | ok d =>
    simp only [hd, Option.ite_none_left_eq_some, Bool.not_eq_false] at h
    obtain ⟨ht, h⟩ := h
    cases hm : Abi.getMessageType d.payload with
    | error e => rw [hm] at h; cases h
    | ok mt' =>
      rw [hm] at h
      cases h
      exact ⟨hs, ((trusted_iff _ _ _).mp ht).2.symm, d, rfl, rfl, rfl, hm⟩

/-- **Inbound, direct.**  A message that is not hub-wrapped is processed as coming from its
    source chain unchanged — and never when that chain is the hub chain itself. -/
theorem direct_never_from_hub (st : State) (sourceChain payload : Bytes) (mt0 : Nat)
    (hm : Abi.getMessageType payload = .ok mt0)
    (hne : mt0 ≠ Generated.MESSAGE_TYPE_RECEIVE_FROM_HUB) :
    getExecuteParams st sourceChain payload =
      if sourceChain = hubChain then none else some (mt0, sourceChain, payload) := by
  simp only [getExecuteParams, hm, beq_iff_eq, hne, if_false]

/-- **Outbound.**  Exact decision table of `get_call_params`. -/
theorem outbound_route (st : State) (dst payload : Bytes) :
    getCallParams st dst payload =
      if dst = hubChain then none                                   -- user-chosen hub chain: refused
      else if st.trusted dst = [] then none                          -- no trusted address: refused
      else if st.trusted dst = hubRouting then
        (if st.trusted hubChain = [] then none                       -- hub address unset: refused
         else match Abi.Hub.encode ⟨Generated.MESSAGE_TYPE_SEND_TO_HUB, dst, payload⟩ with
           | .ok wrapped => some (hubChain, st.trusted hubChain, wrapped)
           | .error _ => none)
      else some (dst, st.trusted dst, payload) := by
  simp only [getCallParams, beq_iff_eq, List.isEmpty_iff]
  rfl

theorem getCallParams_eq_some {st : State} {dst payload c a p : Bytes}
    (h : getCallParams st dst payload = some (c, a, p)) :
    dst ≠ hubChain ∧ st.trusted dst ≠ [] ∧
    ((st.trusted dst = hubRouting ∧ st.trusted hubChain ≠ [] ∧ c = hubChain ∧ a = st.trusted hubChain ∧
        Abi.Hub.encode ⟨Generated.MESSAGE_TYPE_SEND_TO_HUB, dst, payload⟩ = .ok p) ∨
     (st.trusted dst ≠ hubRouting ∧ c = dst ∧ a = st.trusted dst ∧ p = payload)) := by
  rw [outbound_route] at h
  obtain ⟨h1, h⟩ := Option.ite_none_left_eq_some.mp h
  obtain ⟨h2, h⟩ := Option.ite_none_left_eq_some.mp h
  refine ⟨h1, h2, ?_⟩
  by_cases h3 : st.trusted dst = hubRouting
  · rw [if_pos h3] at h
    obtain ⟨h4, h⟩ := Option.ite_none_left_eq_some.mp h
    cases he : Abi.Hub.encode ⟨Generated.MESSAGE_TYPE_SEND_TO_HUB, dst, payload⟩ with
    | error e => rw [he] at h; cases h
    | ok wrapped => rw [he] at h; cases h; exact .inl ⟨h3, h4, rfl, rfl, rfl⟩
  · rw [if_neg h3] at h
    cases h
    exact .inr ⟨h3, rfl, rfl, rfl⟩

/-- direct destinations are sent unwrapped to the trusted address of that very chain -/
theorem direct_destination (st : State) (dst payload : Bytes) (c a p : Bytes)
    (h : getCallParams st dst payload = some (c, a, p)) (hd : st.trusted dst ≠ hubRouting) :
    c = dst ∧ a = st.trusted dst ∧ p = payload ∧ a ≠ [] ∧ dst ≠ hubChain := by
  obtain ⟨h1, h2, ⟨e, _⟩ | ⟨_, rfl, rfl, rfl⟩⟩ := getCallParams_eq_some h
  · exact absurd e hd
  · exact ⟨rfl, rfl, rfl, h2, h1⟩

/-- hub-routed destinations are wrapped with the destination chain name and sent to the hub's
    trusted address on the hub chain -/
theorem routed_destination (st : State) (dst payload : Bytes) (c a p : Bytes)
    (h : getCallParams st dst payload = some (c, a, p)) (hd : st.trusted dst = hubRouting) :
    c = hubChain ∧ a = st.trusted hubChain ∧ a ≠ [] ∧
    Abi.Hub.encode ⟨Generated.MESSAGE_TYPE_SEND_TO_HUB, dst, payload⟩ = .ok p := by
  obtain ⟨_, _, ⟨_, h4, rfl, rfl, he⟩ | ⟨e, _⟩⟩ := getCallParams_eq_some h
  · exact ⟨rfl, rfl, h4, he⟩
  · exact absurd hd e

-- the byte lists are the ASCII of "axelar" and "hub"
/-- constants extracted from the source -/
theorem hub_constants : hubChain = [97, 120, 101, 108, 97, 114] ∧ hubRouting = [104, 117, 98] ∧
    Generated.MESSAGE_TYPE_SEND_TO_HUB = 3 ∧ Generated.MESSAGE_TYPE_RECEIVE_FROM_HUB = 4 :=
  ⟨rfl, rfl, rfl, rfl⟩

/-- **Inbound**: `execute` gets past its first checks only for a source address that is the trusted
    address registered for the source chain, and only with a payload the unwrap rules accept. -/
theorem inbound_processed_only_on_trusted_route (C : Crypto) (cx : ICtx) (sc mid sa payload : Bytes)
    (t t' : Tx) (u : Unit) (h : execute C cx sc mid sa payload t = some (u, t')) :
    isTrustedAddress t.w.its sc sa = true ∧ (getExecuteParams t.w.its sc payload).isSome = true := by
  obtain ⟨_, _, ht, _, _, _, hg, _⟩ := execute_eq_some h
  exact ⟨ht, hg ▸ rfl⟩

/-- **Outbound**: `route_message` sends exactly what `get_call_params` prescribes (trusted address of
    the destination chain, or the hub-wrapped payload to the hub's trusted address), and fails
    when it prescribes nothing. -/
theorem outbound_sent_where_the_table_says (C : Crypto) (cx : ICtx) (dst payload : Bytes) (g : Its.Tok) (n : Nat)
    (t t' : Tx) (u : Unit) (h : routeMessage C cx dst payload g n t = some (u, t')) :
    ∃ c a p, getCallParams t.w.its dst payload = some (c, a, p) ∧
      ItsW.callContract C cx c a p g n t = some (u, t') :=
  routeMessage_eq_some h

/-- `call_contract` refuses an empty destination address and hands the gateway exactly
    (destination chain, destination address, payload) -/
theorem callContract_refuses_empty_destination (C : Crypto) (cx : ICtx) (c p : Bytes) (g : Its.Tok) (n : Nat)
    (t : Tx) : ItsW.callContract C cx c [] p g n t = none :=
  eq_none_of_not_some fun _ _ h => (callContract_eq_some h).1 rfl

/-- **The trusted-address table changes only by the owner**: if any operation of any schedule
    changed it, that operation ran one of the owner endpoints of the service, called by its owner. -/
theorem trusted_table_changes_only_by_owner (C : Crypto) (w : World) (op : World.Op)
    (h : (World.step C w op).its.trusted ≠ w.its.trusted) :
    ∃ src dst func, World.Runs w op src dst func ∧ w.kind dst = some .its ∧ src = w.owner dst ∧
      func ∈ ownerOps :=
  (World.step_change C w op).owner.resolve_left fun e => h e.2

/-! ### Non-vacuity (tests) -/
example : getCallParams { trusted := fun c => if c = [1] then [9] else [] } [1] [7] = some ([1], [9], [7]) := by
  decide

end Axelar.Props.C13
