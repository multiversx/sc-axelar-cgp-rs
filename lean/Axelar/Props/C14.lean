/-
  C14 — ITS token ids are deterministic, domain-separated, and bind one manager forever.
-/
import Axelar.Proofs.ItsHistory
namespace Axelar.Props.C14
open Axelar Axelar.ItsW Axelar.Its Codec

/-! ### The published derivation (Solidity InterchainTokenService / InterchainTokenFactory):

    tokenId            = keccak256(abi.encode(PREFIX_INTERCHAIN_TOKEN_ID, address(0), deploySalt))
    interchain salt    = keccak256(abi.encode(PREFIX_INTERCHAIN_TOKEN_SALT, chainNameHash, deployer, salt))
    canonical salt     = keccak256(abi.encode(PREFIX_CANONICAL_TOKEN_SALT,  chainNameHash, tokenAddress))
    linked salt        = keccak256(abi.encode(PREFIX_CUSTOM_TOKEN_SALT,     chainNameHash, deployer, salt))

  with every PREFIX_x = keccak256("<text>").  All operands are 32-byte words, so `abi.encode` is
  plain concatenation; on MultiversX the 32-byte address is used as is and the token identifier
  is appended raw (documented deviation of the port). -/

def specTokenId (C : Crypto) (deploySalt : Bytes) : Bytes :=
  C.H (C.H (strBytes "its-interchain-token-id") ++ List.replicate 32 0 ++ deploySalt)
def specInterchainSalt (C : Crypto) (chainNameHash deployer salt : Bytes) : Bytes :=
  C.H (C.H (strBytes "interchain-token-salt") ++ chainNameHash ++ deployer ++ salt)
def specCanonicalSalt (C : Crypto) (chainNameHash token : Bytes) : Bytes :=
  C.H (C.H (strBytes "canonical-token-salt") ++ chainNameHash ++ token)
def specLinkedSalt (C : Crypto) (chainNameHash deployer salt : Bytes) : Bytes :=
  C.H (C.H (strBytes "custom-token-salt") ++ chainNameHash ++ deployer ++ salt)

-- the byte lists are the ASCII of "its-interchain-token-id", "interchain-token-salt", "canonical-token-salt", "custom-token-salt"
theorem prefixes_match_published :
    Generated.PREFIX_INTERCHAIN_TOKEN_ID = [105, 116, 115, 45, 105, 110, 116, 101, 114, 99, 104, 97, 105, 110, 45, 116, 111, 107, 101, 110, 45, 105, 100] ∧
    Generated.PREFIX_INTERCHAIN_TOKEN_SALT = [105, 110, 116, 101, 114, 99, 104, 97, 105, 110, 45, 116, 111, 107, 101, 110, 45, 115, 97, 108, 116] ∧
    Generated.PREFIX_CANONICAL_TOKEN_SALT = [99, 97, 110, 111, 110, 105, 99, 97, 108, 45, 116, 111, 107, 101, 110, 45, 115, 97, 108, 116] ∧
    Generated.PREFIX_CUSTOM_TOKEN_SALT = [99, 117, 115, 116, 111, 109, 45, 116, 111, 107, 101, 110, 45, 115, 97, 108, 116] :=
  ⟨rfl, rfl, rfl, rfl⟩

/-- **The ids are a fixed function of (kind, chain name hash, deployer, salt | token) only** —
    no other part of the state, the caller or the time enters. -/
theorem ids_depend_only_on_inputs (C : Crypto) (st st' : State) (h : st.chainNameHash = st'.chainNameHash)
    (d s tok : Bytes) :
    interchainTokenId C st d s = interchainTokenId C st' d s ∧
    linkedTokenId C st d s = linkedTokenId C st' d s ∧
    canonicalTokenId C st tok = canonicalTokenId C st' tok := by
  simp [interchainTokenId, linkedTokenId, canonicalTokenId, interchainTokenDeploySalt, linkedDeploySalt,
    canonicalDeploySalt, h]

theorem id_shapes (C : Crypto) (st : State) (d s tok : Bytes) :
    interchainTokenId C st d s =
      C.H (C.H Generated.PREFIX_INTERCHAIN_TOKEN_ID ++ List.replicate 32 0 ++
        C.H (C.H Generated.PREFIX_INTERCHAIN_TOKEN_SALT ++ st.chainNameHash ++ d ++ s)) ∧
    linkedTokenId C st d s =
      C.H (C.H Generated.PREFIX_INTERCHAIN_TOKEN_ID ++ List.replicate 32 0 ++
        C.H (C.H Generated.PREFIX_CUSTOM_TOKEN_SALT ++ st.chainNameHash ++ d ++ s)) ∧
    canonicalTokenId C st tok =
      C.H (C.H Generated.PREFIX_INTERCHAIN_TOKEN_ID ++ List.replicate 32 0 ++
        C.H (C.H Generated.PREFIX_CANONICAL_TOKEN_SALT ++ st.chainNameHash ++ tok)) := ⟨rfl, rfl, rfl⟩

/-- a token id is two hashes deep — it hashes the deploy salt, which hashes the inputs of the
    derivation — so equal ids have equal inputs, or exhibit a collision of `H` -/
theorem tokenIdRaw_hash_binding {C : Crypto} {x y : Bytes} (h : tokenIdRaw C (C.H x) = tokenIdRaw C (C.H y)) :
    x = y ∨ ∃ a b, a ≠ b ∧ C.H a = C.H b :=
  (C.eq_or_collision h).elim (fun h1 => C.eq_or_collision (List.append_cancel_left h1)) .inr

/-- **Within a kind**: equal ids force equal (deployer, salt) — or exhibit a collision of `H`. -/
theorem interchain_id_binding (C : Crypto) (st : State) (d s d' s' : Bytes)
    (hd : d.length = d'.length)
    (hH : ∀ x y, (C.H x).length = (C.H y).length)
    (h : interchainTokenId C st d s = interchainTokenId C st d' s') :
    (d = d' ∧ s = s') ∨ ∃ a b, a ≠ b ∧ C.H a = C.H b := by
  refine (tokenIdRaw_hash_binding h).imp_left fun h3 => ?_
  simp only [List.append_assoc] at h3
  exact List.append_inj (List.append_cancel_left (List.append_cancel_left h3)) hd

/-- **Across kinds**: an interchain (deployer, salt) id and a linked (deployer, salt) id never
    share a preimage: equality would be a collision of `H` (the two prefixes differ). -/
theorem kinds_are_domain_separated (C : Crypto) (st : State) (d s d' s' : Bytes)
    (hH : ∀ x y, (C.H x).length = (C.H y).length)
    (h : interchainTokenId C st d s = linkedTokenId C st d' s') :
    ∃ a b, a ≠ b ∧ C.H a = C.H b := by
  refine (tokenIdRaw_hash_binding h).elim (fun h3 => ?_) id
  -- the first 32-byte words agree: the two prefix hashes collide
  simp only [List.append_assoc] at h3
  exact ⟨Generated.PREFIX_INTERCHAIN_TOKEN_SALT, Generated.PREFIX_CUSTOM_TOKEN_SALT, by decide,
    (List.append_inj h3 (hH _ _)).1⟩

/-- **Creation of a token manager** (`deploy_token_manager_raw`): refused when the id is already
    bound; otherwise the id is bound to a fresh non-empty address, the contract created there
    is initialised with exactly (this service, the requested type, this id, the requested
    operator, the requested token), and no other id's binding changes. -/
theorem manager_creation (C : Crypto) (cx : ICtx) (tokenId : Bytes) (ty : Nat) (token : Option Bytes)
    (opRaw : Bytes) (t t' : Tx) (addr : Bytes)
    (h : deployTokenManagerRaw C cx tokenId ty token opRaw t = some (addr, t')) :
    t.w.its.tmAddress tokenId = [] ∧ addr ≠ [] ∧ t'.w.its.tmAddress tokenId = addr ∧
    (∀ id, id ≠ tokenId → t'.w.its.tmAddress id = t.w.its.tmAddress id) ∧
    t.w.kind addr = none ∧ t'.w.kind addr = some .tokenManager ∧
    ∃ operator tmst evs, (opRaw = [] ∧ operator = none ∨ opRaw.length = 32 ∧ operator = some opRaw) ∧
      TokenManager.init cx.self ty tokenId operator token = .ok (tmst, evs) ∧ t'.w.tms addr = tmst := by
  obtain ⟨h1, h2, h3, _, h4, h5, h6⟩ := deployTokenManagerRaw_eq_some h
  rw [h3]
  exact ⟨h1, h2, by simp [upd], fun id hid => by simp [upd, hid], h4, h5, h6⟩

/-- the manager's own record of (service, type, id, token) is what `init` was given -/
theorem init_records_arguments (service : Bytes) (ty : Nat) (tokenId : Bytes) (op tok : Option Bytes)
    (st : TokenManager.State) (evs : List Ev) (h : TokenManager.init service ty tokenId op tok = .ok (st, evs)) :
    st.service = service ∧ st.implType = ty ∧ st.tokenId = tokenId ∧ st.tokenIdentifier = tok.getD [] := by
  unfold TokenManager.init at h
  obtain ⟨_, h⟩ := ite_error_eq_ok.mp h
  obtain ⟨_, h⟩ := ite_error_eq_ok.mp h
  cases h
  exact ⟨rfl, rfl, rfl, rfl⟩

/-- local registrations always derive the id from the CALLER's address -/
theorem custom_registration_forbids_native (C : Crypto) (cx : ICtx) (salt tok : Bytes) (lp : Bytes) (t : Tx) :
    registerCustomTokenRaw C cx salt tok 0 lp t = none := by
  refine eq_none_of_not_some fun _ t' h => ?_
  unfold registerCustomTokenRaw at h
  obtain ⟨_, _, _, h⟩ := bind_eq_some.mp h
  -- after the pause check comes `require (ty != 0)`, here with `ty = 0`
  cases (require_bind.mp h).1

/-- **Once set, the binding of a token id to its manager is never replaced** — by any sequence of
    transactions, deliveries of pending calls, callbacks and environment moves, by any callers,
    in any order. -/
theorem binding_is_forever (C : Crypto) (w : World) (ops : List World.Op) (id : Bytes)
    (h : w.its.tmAddress id ≠ []) : (World.run C w ops).its.tmAddress id = w.its.tmAddress id :=
  World.run_rel C (R := fun w w' => ∀ id, w.its.tmAddress id ≠ [] → w'.its.tmAddress id = w.its.tmAddress id)
    (fun _ _ _ => rfl) writeOnce_trans (fun w op => (World.step_change C w op).tm) ops w id h

/-- **The inputs of the id derivations that live in storage (chain name and its hash) are never
    written after `init`**, so the same deployer / salt / token give the same id at every point of
    every history. -/
theorem ids_are_stable_over_histories (C : Crypto) (w : World) (ops : List World.Op) (d s tok : Bytes) :
    interchainTokenId C (World.run C w ops).its d s = interchainTokenId C w.its d s ∧
    linkedTokenId C (World.run C w ops).its d s = linkedTokenId C w.its d s ∧
    canonicalTokenId C (World.run C w ops).its tok = canonicalTokenId C w.its tok :=
  ids_depend_only_on_inputs C _ _ (World.run_config C ops w).chainNameHash d s tok

/-! ### Non-vacuity (test) -/
example : tokenIdRaw ⟨fun x => x.take 1, fun _ _ _ => true⟩ [5] ≠ [] := by decide

end Axelar.Props.C14
