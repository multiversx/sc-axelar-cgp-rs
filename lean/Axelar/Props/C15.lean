/-
  C15 — Gas service custody: exact receipts, collector-only withdrawal, conservation.
-/
import Axelar.Proofs.GasServiceProofs
namespace Axelar.Props.C15
open Axelar Axelar.GasService Codec

/-- total amount of token `t` in a list of sends -/
def outflow (sends : List Send) (t : Tok) : Nat :=
  (sends.map fun s => if s.tok = t then s.amount else 0).sum

/-- balance after crediting an incoming payment -/
def credit (bal : Tok → Nat) (egld : Nat) (esdt : List (Bytes × Nat × Nat)) : Tok → Nat :=
  fun t => bal t + (match t with | none => egld | some _ => 0) +
    (esdt.map fun (tok, _, amt) => if some tok = t then amt else 0).sum

theorem outflow_append (a b : List Send) (t : Tok) : outflow (a ++ b) t = outflow a t + outflow b t := by
  simp [outflow]

theorem outflow_singleton (s : Send) (t : Tok) : outflow [s] t = if s.tok = t then s.amount else 0 :=
  Nat.add_zero _

/-- taking `amt` of `tok` out of the balance and into the sends leaves their sum -/
theorem debit {bal : Tok → Nat} {tok : Tok} {amt : Nat} (hle : amt ≤ bal tok) (receiver : Bytes) (t : Tok) :
    outflow [⟨receiver, tok, amt⟩] t + upd bal tok (bal tok - amt) t = bal t := by
  rw [outflow_singleton]
  unfold upd
  by_cases ht : t = tok
  · rw [if_pos ht, if_pos ht.symm, ht]
    exact Nat.add_sub_cancel' hle
  · rw [if_neg ht, if_neg (Ne.symm ht)]
    exact Nat.zero_add _

theorem collectLoop_spec (receiver : Bytes) (items : List (Tok × Nat)) (bal : Tok → Nat)
    (acc sends : List Send) (h : collectLoop receiver items bal acc = .ok sends) :
    (∀ t, outflow sends t ≤ outflow acc t + bal t) ∧
    (∀ s ∈ sends, s ∈ acc ∨ (s.to = receiver ∧ (s.tok, s.amount) ∈ items ∧ 0 < s.amount)) ∧
    (∀ it ∈ items, 0 < it.2) := by
  induction items generalizing bal acc with
  | nil =>
    cases h
    exact ⟨fun t => Nat.le_add_right _ _, fun s hs => .inl hs, nofun⟩
  | cons it items ih =>
    unfold collectLoop at h
    obtain ⟨h0, h⟩ := ite_error_eq_ok.mp h
    have h0 := Nat.pos_of_ne_zero h0
    split at h
    · rename_i hle
      obtain ⟨i1, i2, i3⟩ := ih _ _ h
      refine ⟨fun t => ?_, fun s hs => ?_, List.forall_mem_cons.mpr ⟨h0, i3⟩⟩
      · rw [← debit hle receiver t, ← Nat.add_assoc, ← outflow_append]
        exact i1 t
      · obtain h1 | ⟨h1, h2, h3⟩ := i2 s hs
        · obtain h1 | h1 := List.mem_append.mp h1
          · exact .inl h1
          · cases List.mem_singleton.mp h1
            exact .inr ⟨rfl, .head _, h0⟩
        · exact .inr ⟨h1, .tail _ h2, h3⟩
    · obtain ⟨i1, i2, i3⟩ := ih _ _ h
      exact ⟨i1, fun s hs => (i2 s hs).imp_right fun ⟨h1, h2, h3⟩ => ⟨h1, .tail _ h2, h3⟩,
        List.forall_mem_cons.mpr ⟨h0, i3⟩⟩

/-- what a successful `collectFees` is, whether or not anything was sent -/
theorem collectFees_eq_ok {st : State} {ctx : Ctx} {args : List Bytes} {out : Out}
    (h : collectFees st ctx args = .ok out) :
    ctx.caller = st.collector ∧ (∀ s ∈ out.sends, Gateway.isZeroAddr s.to = false) ∧
    (∀ t, outflow out.sends t ≤ ctx.balance t) ∧ out.st = st := by
  revert h
  fun_cases collectFees st ctx args
  -- a result `.ok out` comes from the one successful branch
  all_goals
    intro h
    cases h
  next hc hz _ sends hloop =>
    obtain ⟨i1, i2, _⟩ := collectLoop_spec _ _ _ _ _ hloop
    refine ⟨by simpa using hc, fun s hs => ?_, fun t => Nat.zero_add (ctx.balance t) ▸ i1 t, rfl⟩
    obtain h1 | ⟨h1, _⟩ := i2 s hs
    · cases h1
    · rw [h1]
      simpa using hz

theorem refund_eq_ok {st : State} {ctx : Ctx} {args : List Bytes} {out : Out}
    (h : refund st ctx args = .ok out) :
    ctx.caller = st.collector ∧ (∀ s ∈ out.sends, Gateway.isZeroAddr s.to = false) ∧
    (∀ t, outflow out.sends t ≤ ctx.balance t) ∧ out.st = st := by
  revert h
  fun_cases refund st ctx args
  all_goals
    intro h
    cases h
  next hc hz tok amt hle =>
    refine ⟨by simpa using hc, fun s hs => ?_, fun t => ?_, rfl⟩
    · cases List.mem_singleton.mp hs
      simpa using hz
    · rw [outflow_singleton]
      split
      · rename_i ht
        exact ht ▸ hle
      · exact Nat.zero_le _

/-- this and `refund_ok` state the conclusion of `outflow_only_by_collector` with the endpoint's name put in for
    `func`: hence the first conjunct, a disjunction of equations between literals -/
theorem collectFees_ok (st : State) (ctx : Ctx) (args : List Bytes) (out : Out)
    (h : collectFees st ctx args = .ok out) (_hs : out.sends ≠ []) :
    ("collectFees" = "collectFees" ∨ "collectFees" = "refund") ∧ ctx.caller = st.collector ∧
    (∀ s ∈ out.sends, Gateway.isZeroAddr s.to = false) ∧
    (∀ t, outflow out.sends t ≤ ctx.balance t) ∧ out.st = st :=
  ⟨.inl rfl, collectFees_eq_ok h⟩

theorem refund_ok (st : State) (ctx : Ctx) (args : List Bytes) (out : Out)
    (h : refund st ctx args = .ok out) (_hs : out.sends ≠ []) :
    ("refund" = "collectFees" ∨ "refund" = "refund") ∧ ctx.caller = st.collector ∧
    (∀ s ∈ out.sends, Gateway.isZeroAddr s.to = false) ∧
    (∀ t, outflow out.sends t ≤ ctx.balance t) ∧ out.st = st :=
  ⟨.inr rfl, refund_eq_ok h⟩

/-- **Every accepted payment / top-up carries a non-zero amount of exactly one token and emits
    exactly one event built from what was actually received.** -/
theorem esdt_payment_event (C : Crypto) (st : State) (ctx : Ctx) (name : String) (args : List Bytes)
    (out : Out) (h : payEsdt C st ctx name args = .ok out) :
    ∃ sender chain addr payload refund tok amt,
      args = [sender, chain, addr, payload, refund] ∧ ctx.esdt = [(tok, 0, amt)] ∧ ctx.egld = 0 ∧
      0 < amt ∧ out.sends = [] ∧ out.st = st ∧
      out.events = [⟨name, [sender, chain, addr], [gasPaidData (C.H payload) tok amt refund]⟩] :=
  payEsdt_eq_ok h

theorem native_payment_event (C : Crypto) (st : State) (ctx : Ctx) (name : String) (args : List Bytes)
    (out : Out) (h : payNative C st ctx name args = .ok out) :
    ∃ sender chain addr payload refund,
      args = [sender, chain, addr, payload, refund] ∧ ctx.esdt = [] ∧ 0 < ctx.egld ∧
      out.sends = [] ∧ out.st = st ∧
      out.events = [⟨name, [sender, chain, addr], [nativeGasPaidData (C.H payload) ctx.egld refund]⟩] :=
  payNative_eq_ok h

/-- **Funds leave only through `collectFees` / `refund`, only when the caller is the current
    collector, only to a non-zero receiver, and never more than the balance.** -/
theorem outflow_only_by_collector (C : Crypto) (st : State) (ctx : Ctx) (func : String)
    (args : List Bytes) (out : Out) (h : call C st ctx func args = .ok out)
    (hs : out.sends ≠ []) :
    (func = "collectFees" ∨ func = "refund") ∧ ctx.caller = st.collector ∧
    (∀ s ∈ out.sends, Gateway.isZeroAddr s.to = false) ∧
    (∀ t, outflow out.sends t ≤ ctx.balance t) ∧ out.st = st := by
  cases call_ok h with
  | collectFees hf hc => exact ⟨.inl hf, collectFees_eq_ok hc⟩
  | refund hf hc => exact ⟨.inr hf, refund_eq_ok hc⟩
  | setGasCollector _ hc =>
    obtain ⟨_, _, _, rfl⟩ := setGasCollector_eq_ok hc
    exact absurd rfl hs
  | payEsdt _ hq | payNative _ hq | addEsdt _ hq | addNative _ hq | quiet hq => exact absurd hq.2 hs

/-- **The collector is replaced only by the collector or the owner.** -/
theorem collector_changes_only_by_collector_or_owner (C : Crypto) (st : State) (ctx : Ctx)
    (func : String) (args : List Bytes) (out : Out) (h : call C st ctx func args = .ok out)
    (hne : out.st.collector ≠ st.collector) :
    func = "setGasCollector" ∧ (ctx.caller = st.collector ∨ ctx.caller = ctx.owner) := by
  have same : out.st ≠ st := fun e => hne (e ▸ rfl)
  cases call_ok h with
  | collectFees _ hc => exact absurd (collectFees_eq_ok hc).2.2.2 same
  | refund _ hc => exact absurd (refund_eq_ok hc).2.2.2 same
  | setGasCollector hf hc =>
    obtain ⟨_, _, hauth, _⟩ := setGasCollector_eq_ok hc
    exact ⟨hf, hauth⟩
  | payEsdt _ hq | payNative _ hq | addEsdt _ hq | addNative _ hq | quiet hq => exact absurd hq.1 same

/-- a transaction in a history: caller, owner of the service, attached payment, endpoint, arguments; the balance
    the endpoint sees is not part of it, `lstep` supplies it -/
structure GCall where
  caller : Bytes
  owner : Bytes
  egld : Nat
  esdt : List (Bytes × Nat × Nat)
  func : String
  args : List Bytes

/-- the service with its balances and two ghost counters: everything received, everything sent -/
structure Ledger where
  st : State
  bal : Tok → Nat
  received : Tok → Nat
  paidOut : Tok → Nat

/-- one transaction: the payment is credited, the endpoint runs, its sends are debited; a
    failing transaction changes nothing -/
def lstep (C : Crypto) (l : Ledger) (c : GCall) : Ledger :=
  let bal1 := credit l.bal c.egld c.esdt
  match call C l.st ⟨c.caller, c.owner, c.egld, c.esdt, bal1⟩ c.func c.args with
  | .ok out =>
    { st := out.st, bal := fun t => bal1 t - outflow out.sends t,
      received := credit l.received c.egld c.esdt,
      paidOut := fun t => l.paidOut t + outflow out.sends t }
  | .error _ => l

def lrun (C : Crypto) (l : Ledger) (cs : List GCall) : Ledger := cs.foldl (lstep C) l

theorem lrun_cons (C : Crypto) (l : Ledger) (c : GCall) (cs : List GCall) :
    lrun C l (c :: cs) = lrun C (lstep C l c) cs := List.foldl_cons ..

/-- one transaction keeps the books: what it credits is received, what it sends is within the balance -/
theorem lstep_conserves (C : Crypto) {l : Ledger} (c : GCall) {t : Tok} {k : Nat}
    (hl : l.bal t + l.paidOut t = k + l.received t) :
    (lstep C l c).bal t + (lstep C l c).paidOut t = k + (lstep C l c).received t := by
  dsimp only [lstep]
  split
  · rename_i out hc
    have hle : outflow out.sends t ≤ credit l.bal c.egld c.esdt t := by
      by_cases hs : out.sends = []
      · rw [hs]
        exact Nat.zero_le _
      · exact (outflow_only_by_collector C _ _ _ _ out hc hs).2.2.2.1 t
    dsimp only [credit] at hle ⊢
    omega
  · exact hl

/-- **Conservation.** For every history, for every token: balance = initial balance + all
    receipts − all collections and refunds. -/
theorem conservation (C : Crypto) (st : State) (bal0 : Tok → Nat) (cs : List GCall) (t : Tok) :
    let l := lrun C ⟨st, bal0, fun _ => 0, fun _ => 0⟩ cs
    l.bal t + l.paidOut t = bal0 t + l.received t := by
  apply List.foldlRecOn (motive := fun l : Ledger => l.bal t + l.paidOut t = bal0 t + l.received t)
  · rfl
  · exact fun _ h c _ => lstep_conserves C c h

/-! ### Non-vacuity (tests) -/
example : collectLoop [9] [(none, 5), (some [1], 7), (none, 3)] (fun t => if t = none then 6 else 7) [] =
    .ok [⟨[9], none, 5⟩, ⟨[9], some [1], 7⟩] := by rfl

end Axelar.Props.C15
