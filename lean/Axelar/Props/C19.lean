/-
  C19 — ITS remote deploy with a custom minter needs an exact, single-use approval.
-/
import Axelar.Proofs.ItsHistory
namespace Axelar.Props.C19
open Axelar Axelar.ItsW Axelar.Its Codec

/-- **Use of an approval**: succeeds exactly when an approval is stored under the key of
    (minter, token id, destination chain) and equals the hash of the requested destination
    minter; it is then cleared (single use) and nothing else changes. -/
theorem use_approval_exact (C : Crypto) (st : State) (minter tokenId chain dm : Bytes) :
    (∀ st', useDeployApproval C st minter tokenId chain dm = some st' →
        st.approvedMinters (deployApprovalKey C minter tokenId chain) = C.H dm ∧
        st.approvedMinters (deployApprovalKey C minter tokenId chain) ≠ [] ∧
        st'.approvedMinters (deployApprovalKey C minter tokenId chain) = [] ∧
        (∀ k, k ≠ deployApprovalKey C minter tokenId chain → st'.approvedMinters k = st.approvedMinters k) ∧
        st'.tmAddress = st.tmAddress ∧ st'.trusted = st.trusted ∧ st'.paused = st.paused) ∧
    (st.approvedMinters (deployApprovalKey C minter tokenId chain) = [] →
        useDeployApproval C st minter tokenId chain dm = none) ∧
    (st.approvedMinters (deployApprovalKey C minter tokenId chain) ≠ C.H dm →
        useDeployApproval C st minter tokenId chain dm = none) := by
  refine ⟨fun st' h => ?_, fun h => ?_, fun h => ?_⟩
  · obtain ⟨⟨hne, he⟩, rfl⟩ := useDeployApproval_eq_some.mp h
    exact ⟨he, hne, by simp [upd], fun k hk => by simp [upd, hk], rfl, rfl, rfl⟩
  · exact Option.eq_none_iff_forall_ne_some.mpr fun _ hs => (useDeployApproval_eq_some.mp hs).1.1 h
  · exact Option.eq_none_iff_forall_ne_some.mpr fun _ hs => h (useDeployApproval_eq_some.mp hs).1.2

/-- a used approval cannot be used again -/
theorem approval_single_use (C : Crypto) (st st' : State) (minter tokenId chain dm dm' : Bytes)
    (h : useDeployApproval C st minter tokenId chain dm = some st') :
    useDeployApproval C st' minter tokenId chain dm' = none :=
  (use_approval_exact C st' minter tokenId chain dm').2.1
    ((use_approval_exact C st minter tokenId chain dm).1 st' h).2.2.1

/-- **An approval for one combination never authorises another**: two approval keys agree only
    if minter, token id and destination chain agree — or `H` collides (explicit witness). -/
theorem approval_key_binding (C : Crypto) (m t c m' t' c' : Bytes)
    (hm : m.length = m'.length) (ht : t.length = t'.length)
    (h : deployApprovalKey C m t c = deployApprovalKey C m' t' c') :
    (m = m' ∧ t = t' ∧ c = c') ∨ ∃ a b, a ≠ b ∧ C.H a = C.H b := by
  refine (C.eq_or_collision h).imp_left fun he => ?_
  simp only [List.append_assoc] at he
  obtain ⟨e1, h2⟩ := List.append_inj (List.append_cancel_left he) hm
  obtain ⟨e2, h3⟩ := List.append_inj h2 ht
  -- the nested chain names: both length prefixes are four bytes
  exact ⟨e1, e2, (List.append_inj h3 (by rw [u32be_length, u32be_length])).2⟩

/-- revocation is keyed by the caller: it can only clear the caller's own approval -/
theorem revoke_only_own (C : Crypto) (cx : ICtx) (deployer salt chain : Bytes) (t t' : Tx)
    (h : revokeDeployRemote C cx deployer salt chain t = some ((), t')) :
    t'.w.its.approvedMinters (deployApprovalKey C cx.caller (interchainTokenId C t.w.its deployer salt) chain) = [] ∧
    ∀ k, k ≠ deployApprovalKey C cx.caller (interchainTokenId C t.w.its deployer salt) chain →
      t'.w.its.approvedMinters k = t.w.its.approvedMinters k := by
  cases h
  exact ⟨upd_same .., fun k hk => upd_other hk ..⟩

/-- **Who may approve, and what is stored**: a successful approval was made by an account that
    the token's manager reports as minter (and that is not the service itself), for a trusted
    destination chain; it stores the hash of the destination minter under the key of (the
    caller, the deployer's token id, the destination chain) and changes no other entry. -/
theorem approve_effect (C : Crypto) (cx : ICtx) (deployer salt chain dm : Bytes) (t t' : Tx)
    (h : approveDeployRemote C cx deployer salt chain dm t = some ((), t')) :
    (∃ t1, checkTokenMinter C cx (interchainTokenId C t.w.its deployer salt) cx.caller t = some ((), t1)) ∧
    t.w.its.trusted chain ≠ [] ∧
    t'.w.its.approvedMinters (deployApprovalKey C cx.caller (interchainTokenId C t.w.its deployer salt) chain) = C.H dm ∧
    ∀ k, k ≠ deployApprovalKey C cx.caller (interchainTokenId C t.w.its deployer salt) chain →
      t'.w.its.approvedMinters k = t.w.its.approvedMinters k := by
  unfold approveDeployRemote at h
  rw [getI_bind] at h
  obtain ⟨_, t1, hc, h⟩ := bind_eq_some.mp h
  rw [getI_bind] at h
  obtain ⟨htr, h⟩ := require_bind.mp h
  -- what is left (the event and the write) always succeeds
  cases h
  -- the minter check is a view of the manager: the service's storage is as before
  simp only [Bool.not_eq_true', List.isEmpty_eq_false_iff, (Frame.h (R := World.Ext) hc).its] at htr ⊢
  exact ⟨⟨t1, hc⟩, htr, upd_same .., fun k hk => upd_other hk ..⟩

/-- **The service's own address is never accepted as the minter**, and the named minter must be
    reported as minter by the token's manager. -/
theorem minter_check (C : Crypto) (cx : ICtx) (tokenId minter : Bytes) (t t1 : Tx)
    (h : checkTokenMinter C cx tokenId minter t = some ((), t1)) :
    minter ≠ cx.self ∧ t.w.its.tmAddress tokenId ≠ [] ∧
    ∃ t0, subcall C cx (t.w.its.tmAddress tokenId) "isMinter" 0 [] [minter] t = some ([encBool true], t0) := by
  unfold checkTokenMinter at h
  rw [getI_bind] at h
  obtain ⟨he, h⟩ := require_bind.mp h
  obtain ⟨rs, t0, hs, h⟩ := bind_eq_some.mp h
  obtain ⟨hrs, h⟩ := require_bind.mp h
  obtain ⟨hm, _⟩ := require_eq_some.mp h
  exact ⟨bne_iff_ne.mp hm, by simpa using he, t0, beq_iff_eq.mp hrs ▸ hs⟩

/-- **At the time of use the named local minter must CURRENTLY hold the minter role**, and a custom
    destination minter needs the stored approval of exactly (that minter, the caller's token id,
    the destination chain, the destination minter), which the use clears. -/
theorem custom_minter_deploy_needs_current_minter_and_approval (C : Crypto) (cx : ICtx)
    (salt minter chain dm : Bytes) (t t' : Tx) (r : Bytes) (hz : Gateway.isZeroAddr minter = false)
    (h : deployRemoteWithMinter C cx salt minter chain (some dm) t = some (r, t')) :
    ∃ t1 st', checkTokenMinter C cx (tokenIdRaw C (interchainTokenDeploySalt C t.w.its cx.caller salt)) minter t
        = some ((), t1) ∧
      useDeployApproval C t1.w.its minter (tokenIdRaw C (interchainTokenDeploySalt C t.w.its cx.caller salt)) chain dm
        = some st' := by
  rw [deployRemoteWithMinter_eq, getI_bind] at h
  obtain ⟨_, _, hm, -⟩ := bind_eq_some.mp h
  obtain ⟨-, ⟨⟩, -⟩ | ⟨-, t0, hc, ⟨⟨⟩, -⟩ | ⟨⟨⟩, st', hu, -⟩⟩ := minterCheck_eq_some hm
  exact ⟨t0, st', hc, hu⟩

/-- **Without a local minter no destination minter can be supplied.** -/
theorem no_local_minter_no_destination_minter (C : Crypto) (cx : ICtx) (salt minter chain dm : Bytes) (t : Tx)
    (hz : Gateway.isZeroAddr minter = true) : deployRemoteWithMinter C cx salt minter chain (some dm) t = none := by
  simp only [deployRemoteWithMinter, hz, Bool.not_true, Bool.false_eq_true, ↓reduceIte, Option.isNone_some,
    run_bind, run_getI, run_require]

/-- **An approval can only be created by its author**: whatever operation of whatever schedule
    runs, each entry of the approvals table keeps its value, or is cleared, or the operation runs
    a call to the service made by the very account whose address the entry's key is derived
    from.  (So nobody can fabricate, or alter, an approval in another minter's name; by
    `approval_key_binding` keys of different accounts differ unless the hash collides.) -/
theorem approvals_written_only_by_their_author (C : Crypto) (w : World) (op : World.Op) (key : Bytes) :
    (World.step C w op).its.approvedMinters key = w.its.approvedMinters key ∨
    (World.step C w op).its.approvedMinters key = [] ∨
    ∃ src dst func tid chain, World.Runs w op src dst func ∧ w.kind dst = some .its ∧
      key = deployApprovalKey C src tid chain :=
  World.step_approvals C w op key

/-- in particular a missing approval appears only through a call by its author -/
theorem approval_appears_only_by_author (C : Crypto) (w : World) (op : World.Op) (key : Bytes)
    (h0 : w.its.approvedMinters key = []) (h1 : (World.step C w op).its.approvedMinters key ≠ []) :
    ∃ src dst func tid chain, World.Runs w op src dst func ∧ w.kind dst = some .its ∧
      key = deployApprovalKey C src tid chain :=
  ((World.step_approvals C w op key).resolve_left fun e => h1 (e.trans h0)).resolve_left h1

/-! ### Non-vacuity (test) -/
example : ∃ st', useDeployApproval ⟨fun _ => [1], fun _ _ _ => true⟩
    { approvedMinters := fun _ => [1] } [2] [3] [4] [5] = some st' := ⟨_, rfl⟩

end Axelar.Props.C19
