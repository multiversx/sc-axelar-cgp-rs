/-
  C03 — Gateway signer rotation: unique epochs, well-formed sets, latest-set and delay.
-/
import Axelar.Proofs.GatewayProofs
namespace Axelar.Props.C03
open Axelar Axelar.Gateway Axelar.GatewaySpec Codec

/-- **Every successful rotation**: the epoch advances by exactly one; the new set is
    well-formed; its hash had no epoch before (and entries are never removed, see
    `registered_forever`, so it was never registered); the proof came from a set inside the
    retention window; the new hash is recorded under the new epoch in both directions. -/
theorem rotation_effect (C : Crypto) (st st' : State) (ctx : Ctx) (args rs : List Bytes)
    (evs : List Ev) (h : call C st ctx "rotateSigners" args = .ok (st', rs, evs)) :
    ∃ rawSigners rawProof ws proof,
      args = [rawSigners, rawProof] ∧ top decSigners rawSigners = some ws ∧
      top decProof rawProof = some proof ∧
      wfSigners ws = true ∧
      st'.epoch = st.epoch + 1 ∧
      st.epochByHash (signersHash C ws) = 0 ∧
      st'.epochByHash (signersHash C ws) = st.epoch + 1 ∧
      st'.hashByEpoch (st.epoch + 1) = signersHash C ws ∧
      inWindow C st proof.signers = true ∧
      st'.lastRotation = ctx.now ∧ st'.operator = st.operator ∧ st'.messages = st.messages := by
  obtain ⟨s, p, rfl, hr⟩ := rotate_call_inv h
  obtain ⟨proof, ws, _, hp, hs, _, hv, _, hraw⟩ := rotateSigners_eq_ok.mp hr
  obtain ⟨hwf, hnew, _, _, rfl, _⟩ := rotateSignersRaw_eq_ok.mp hraw
  exact ⟨s, p, ws, proof, rfl, hs, hp, hwf, rfl, hnew, by simp only [upd_same], by simp only [upd_same],
    (validateProof_eq_ok.mp hv).1, rfl, rfl, rfl⟩

/-- **Ill-formed sets are always rejected** (empty, keys not strictly increasing, a zero weight,
    zero threshold, threshold above the total weight), whoever calls and whatever the proof. -/
theorem malformed_set_rejected (C : Crypto) (st : State) (ctx : Ctx) (rawSigners rawProof : Bytes)
    (ws : WeightedSigners) (hdec : top decSigners rawSigners = some ws)
    (hbad : wfSigners ws = false) :
    ∃ e, call C st ctx "rotateSigners" [rawSigners, rawProof] = .error e := by
  refine exists_error_of_ne_ok fun _ hc => ?_
  obtain ⟨_, _, _, _, ha, hs, _, hwf, _⟩ := rotation_effect C st _ ctx _ _ _ hc
  cases ha
  cases hdec.symm.trans hs
  cases hbad.symm.trans hwf

/-- **Non-operator callers**: the proof's set is the *latest* one and the minimum rotation
    delay has elapsed since the previous rotation. -/
theorem non_operator_needs_latest_and_delay (C : Crypto) (st st' : State) (ctx : Ctx)
    (args rs : List Bytes) (evs : List Ev)
    (h : call C st ctx "rotateSigners" args = .ok (st', rs, evs))
    (hno : ctx.caller ≠ st.operator) :
    ∃ rawSigners rawProof proof, args = [rawSigners, rawProof] ∧
      top decProof rawProof = some proof ∧
      st.epochByHash (signersHash C proof.signers) = st.epoch ∧
      st.lastRotation ≤ ctx.now ∧ ctx.now - st.lastRotation ≥ st.minDelay := by
  obtain ⟨s, p, rfl, hr⟩ := rotate_call_inv h
  obtain ⟨proof, _, _, hp, _, _, hv, hl, hraw⟩ := rotateSigners_eq_ok.mp hr
  obtain ⟨_, _, hle, hd, _, _⟩ := rotateSignersRaw_eq_ok.mp hraw
  obtain ⟨_, _, hil⟩ := validateProof_eq_ok.mp hv
  rw [hl hno] at hil
  exact ⟨s, p, proof, rfl, hp, eq_of_beq hil.symm, hle, hd (bne_iff_ne.mpr hno)⟩

/-- **The operator** may use any registered set still inside the retention window and is not
    subject to the delay: with a complete proof from such a set and a fresh well-formed new set
    the rotation succeeds at any (monotone) time. -/
theorem operator_may_use_any_set_in_window (C : Crypto) (st : State) (ctx : Ctx)
    (rawSigners rawProof : Bytes) (ws : WeightedSigners) (proof : Proof)
    (hs : top decSigners rawSigners = some ws) (hp : top decProof rawProof = some proof)
    (hop : ctx.caller = st.operator) (hset : st.operator.isEmpty = false)
    (hwin : inWindow C st proof.signers = true) (hthr : 0 < proof.signers.threshold)
    (hlen : proof.signatures.length = proof.signers.signers.length)
    (hne : proof.signatures.isEmpty = false)
    (hall : allSuppliedValid C (proofDigest C st proof.signers tagRotateSigners rawSigners)
      proof.signers.signers proof.signatures = true)
    (hw : suppliedWeight proof.signers.signers proof.signatures ≥ proof.signers.threshold)
    (hwf : wfSigners ws = true) (hfresh : st.epochByHash (signersHash C ws) = 0)
    (htime : st.lastRotation ≤ ctx.now) :
    ∃ st' evs, call C st ctx "rotateSigners" [rawSigners, rawProof] = .ok (st', [], evs) ∧
      st'.epoch = st.epoch + 1 := by
  have hv := validateProof_eq_ok.mpr ⟨hwin, validateSignatures_complete hlen hne hthr hall hw, rfl⟩
  -- the operator calls: no delay is enforced, and the proof's set need not be the latest
  have hraw := rotateSignersRaw_eq_ok.mpr
    ⟨hwf, hfresh, htime, fun he => absurd hop (bne_iff_ne.mp he), rfl, rfl⟩
  exact ⟨_, _, call_rotateSigners (rotateSigners_eq_ok.mpr
    ⟨proof, ws, _, hp, hs, hset, hv, fun hne => absurd hop hne, hraw⟩), rfl⟩

/-- **Outside the retention window a set authorises nothing**, for either command. -/
theorem out_of_window_rejected (C : Crypto) (st : State) (dh : Bytes) (p : Proof)
    (h : inWindow C st p.signers = false) : ∃ e, validateProof C st dh p = .error e := by
  refine exists_error_of_ne_ok fun b hv => ?_
  cases (validateProof_eq_ok.mp hv).1.symm.trans h

/-- every command goes through `validate_proof` with its own tag (shared check) -/
theorem commands_share_validation (C : Crypto) (st : State) (ctx : Ctx) (a b : Bytes) (p : Proof)
    (hp : top decProof b = some p) (h : inWindow C st p.signers = false) :
    (∃ e, call C st ctx "approveMessages" [a, b] = .error e) ∧
    (∃ e, call C st ctx "rotateSigners" [a, b] = .error e) := by
  constructor <;> refine exists_error_of_ne_ok fun _ hc => ?_
  · obtain ⟨_, _, ha, hq⟩ := approve_call_inv hc
    cases ha
    obtain ⟨_, _, _, hp', _, _, hv, _⟩ := approveMessages_eq_ok.mp hq
    cases hp.symm.trans hp'
    cases (validateProof_eq_ok.mp hv).1.symm.trans h
  · obtain ⟨_, _, ha, hq⟩ := rotate_call_inv hc
    cases ha
    obtain ⟨_, _, _, hp', _, _, hv, _⟩ := rotateSigners_eq_ok.mp hq
    cases hp.symm.trans hp'
    cases (validateProof_eq_ok.mp hv).1.symm.trans h

/-- **Registry entries are never removed or overwritten**: once a hash has an epoch it keeps it
    through every later call (so "epoch 0" really means "never registered"). -/
theorem registered_forever (C : Crypto) (st : State) (cs : List Call) (hinv : RegInv st) (h : Bytes)
    (hreg : st.epochByHash h ≠ 0) : (run C st cs).epochByHash h = st.epochByHash h := by
  refine run_induct (fun s => s.epochByHash h = st.epochByHash h) (fun hs hc => ?_) cs st rfl
  -- only a rotation writes the registry, and it keeps what is registered
  exact call_induct (fun s => s.epochByHash h = st.epochByHash h) (fun _ => id) (fun _ _ => id)
    (fun hs hr => (rotateSignersRaw_epochByHash hr).2 hs hreg) hc hs

/-- **An upgrade registers sets under the same rules**: the owner's `upgrade(operator, sets…)` advances
    the epoch by exactly one per set; every set is well-formed, had never been registered before (and the
    sets are pairwise different, since each is registered when the next is checked) and is registered
    afterwards; nothing registered earlier loses or changes its epoch. -/
theorem upgrade_registers_only_fresh_wellformed_sets (C : Crypto) (st st' : State) (now : Nat)
    (op : Bytes) (ss : List WeightedSigners) (evs : List Ev)
    (h : upgrade C st now op ss = .ok (st', evs)) :
    st'.epoch = st.epoch + ss.length ∧
    (∀ hsh, st.epochByHash hsh ≠ 0 → st'.epochByHash hsh = st.epochByHash hsh) ∧
    (∀ ws ∈ ss, wfSigners ws = true ∧ st.epochByHash (signersHash C ws) = 0 ∧
        st'.epochByHash (signersHash C ws) ≠ 0) := by
  obtain ⟨st0, e0, hst0, heq⟩ := upgrade_eq_loop C st now op ss
  rw [heq] at h
  obtain ⟨h1, h2, h3⟩ := upgradeLoop_spec h
  -- writing the operator first changes neither the epoch nor the registry
  rcases hst0 with rfl | rfl <;> exact ⟨h1, fun _ hne => h2 rfl hne, h3⟩

/-- a malformed or already registered set anywhere in the list makes the whole upgrade fail -/
theorem upgrade_with_bad_set_fails (C : Crypto) (st : State) (now : Nat) (op : Bytes)
    (ss : List WeightedSigners) (ws : WeightedSigners) (hmem : ws ∈ ss)
    (hbad : wfSigners ws = false ∨ st.epochByHash (signersHash C ws) ≠ 0) :
    ∃ e, upgrade C st now op ss = .error e := by
  refine exists_error_of_ne_ok fun ⟨st', evs⟩ hu => ?_
  obtain ⟨_, _, h3⟩ := upgrade_registers_only_fresh_wellformed_sets C st st' now op ss evs hu
  obtain ⟨a, b, _⟩ := h3 ws hmem
  rcases hbad with h | h
  · cases a.symm.trans h
  · exact h b

/-- **Operatorship changes only at the request of the current operator or the owner.** -/
theorem operator_changes_only_by_operator_or_owner (C : Crypto) (st : State) (c : Call)
    (h : (stepCall C st c).operator ≠ st.operator) :
    (c.func = "transferOperatorship" ∨ c.func = "upgradeContract") ∧
      (c.ctx.caller = st.operator ∨ c.ctx.caller = c.ctx.owner) := by
  -- neither a write to the message map nor a rotation touches the operator, so by the frame of a call
  -- the operator could only have changed through one of the two endpoints, called by one of the two
  refine Decidable.byContradiction fun hcon => h ?_
  refine stepCall_induct (fun s => s.operator = st.operator) rfl fun hcall => ?_
  refine call_induct (fun s => s.operator = st.operator) (fun _ => id)
    (fun hf hc => absurd ⟨hf, hc⟩ hcon) (fun hs hr => ?_) hcall rfl
  obtain ⟨_, _, _, _, rfl, _⟩ := rotateSignersRaw_eq_ok.mp hr
  exact hs

/-- **Monotone block time keeps `lastRotation ≤ now`** (the side condition under which the
    Rust's `u64` subtraction `now - last_rotation` is exact). -/
theorem last_rotation_le_now (C : Crypto) (st : State) (c : Call) (h : st.lastRotation ≤ c.ctx.now) :
    (stepCall C st c).lastRotation ≤ c.ctx.now := by
  refine stepCall_induct (fun s => s.lastRotation ≤ c.ctx.now) h fun hcall => ?_
  refine call_induct (fun s => s.lastRotation ≤ c.ctx.now) (fun _ => id) (fun _ _ => id)
    (fun _ hr => ?_) hcall h
  -- a rotation stamps the time of its own call
  obtain ⟨_, _, _, _, rfl, _⟩ := rotateSignersRaw_eq_ok.mp hr
  exact Nat.le_refl _

/-! ### Non-vacuity (tests) -/
example : wfSigners ⟨[⟨[1], 2⟩, ⟨[2], 3⟩], 4, []⟩ = true := by decide
example : wfSigners ⟨[⟨[2], 2⟩, ⟨[1], 3⟩], 4, []⟩ = false := by decide
example : wfSigners ⟨[⟨[1], 2⟩, ⟨[2], 3⟩], 6, []⟩ = false := by decide

end Axelar.Props.C03
