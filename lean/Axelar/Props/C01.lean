/-
  C01 — Gateway approves messages only under a valid weighted-signer quorum proof.
  `C : Crypto` (hash and signature verification) is universally quantified everywhere: nothing
  is assumed about Keccak-256 or ed25519.
-/
import Axelar.Proofs.GatewayProofs
namespace Axelar.Props.C01
open Axelar Axelar.Gateway Axelar.GatewaySpec Codec

/-- **Only-if.** A successful `approveMessages` call carried a proof whose signer set is in the
    gateway's registry at most `retention` epochs back, with one signature slot per signer, and
    the supplied signatures that verify — position by position, against the digest binding this
    gateway's domain separator, that set's hash, the ApproveMessages tag and the raw batch
    bytes — have combined weight ≥ the set's threshold. -/
theorem approval_requires_quorum (C : Crypto) (st st' : State) (ctx : Ctx) (args rs : List Bytes)
    (evs : List Ev) (h : call C st ctx "approveMessages" args = .ok (st', rs, evs)) :
    ∃ rawMsgs rawProof, args = [rawMsgs, rawProof] ∧ approveSound C st rawMsgs rawProof = true := by
  obtain ⟨m, p, rfl, ha⟩ := approve_call_inv h
  refine ⟨m, p, rfl, ?_⟩
  obtain ⟨proof, _, _, hp, _, _, hv, _⟩ := approveMessages_eq_ok.mp ha
  obtain ⟨hwin, hsig, _⟩ := validateProof_eq_ok.mp hv
  obtain ⟨hlen, hne, hweight⟩ := validateSignatures_sound hsig
  simp only [approveSound, hp, hwin, hlen, hne, proofDigest, Bool.and_eq_true, decide_eq_true_eq,
    Bool.not_eq_true', true_and]
  exact decide_eq_true hweight

/-- **Conversely.** For a well-formed non-empty batch, a proof from an in-window registered set
    (threshold > 0, one slot per signer) in which *all supplied* signatures verify and their
    weight reaches the threshold is accepted. -/
theorem valid_proof_accepted (C : Crypto) (st : State) (ctx : Ctx) (rawMsgs rawProof : Bytes)
    (h : approveComplete C st rawMsgs rawProof = true) :
    ∃ st' evs, call C st ctx "approveMessages" [rawMsgs, rawProof] = .ok (st', [], evs) := by
  unfold approveComplete at h
  split at h
  · rename_i p msgs hp hm
    simp only [Bool.and_eq_true, decide_eq_true_eq, Bool.not_eq_true'] at h
    obtain ⟨⟨⟨⟨⟨⟨hmsgs, hwin⟩, hthr⟩, hlen⟩, hne⟩, hall⟩, hweight⟩ := h
    have hv := validateProof_eq_ok.mpr ⟨hwin, validateSignatures_complete hlen hne hthr hall hweight, rfl⟩
    exact ⟨_, _, call_approveMessages (approveMessages_eq_ok.mpr ⟨p, msgs, _, hp, hm, hmsgs, hv, rfl⟩)⟩
  · cases h

/-- **Nothing is written before validation**: a failing call leaves the state untouched, and a
    successful one changes nothing but message entries (no registry, epoch, operator, config). -/
theorem approval_frame (C : Crypto) (st st' : State) (ctx : Ctx) (args rs : List Bytes)
    (evs : List Ev) (h : call C st ctx "approveMessages" args = .ok (st', rs, evs)) :
    st'.epochByHash = st.epochByHash ∧ st'.hashByEpoch = st.hashByEpoch ∧ st'.epoch = st.epoch ∧
    st'.retention = st.retention ∧ st'.domain = st.domain ∧ st'.operator = st.operator := by
  obtain ⟨m, p, rfl, ha⟩ := approve_call_inv h
  obtain ⟨x, rfl⟩ := approveMessages_frame ha
  exact ⟨rfl, rfl, rfl, rfl, rfl, rfl⟩

theorem failed_call_changes_nothing (C : Crypto) (st : State) (c : Call) (e : Err)
    (h : call C st c.ctx c.func c.args = .error e) : stepCall C st c = st := by
  simp [stepCall, h]

/-- **The registry is the gateway's own**: in every state reachable from any initialisation by
    any sequence of calls, a non-zero epoch recorded for a hash is the epoch at which exactly
    that hash was registered, it is at most the current epoch, and both maps agree. -/
theorem registry_invariant (C : Crypto) (now : Nat) (args : List Bytes) (st0 : State) (evs : List Ev)
    (hinit : initCall C now args = .ok (st0, evs)) (cs : List Call) :
    RegInv (run C st0 cs) := by
  refine run_induct RegInv (fun hinv h => ?_) cs st0 (init_regInv hinit)
  -- neither the message map nor the operator is part of the registry; rotations, by proof or by the
  -- owner's upgrade, all go through the same raw rotation
  exact call_induct RegInv (fun _ h => ⟨h.fwd, h.bwd⟩) (fun _ _ h => ⟨h.fwd, h.bwd⟩)
    rotateSignersRaw_regInv h hinv

/-- Two digests agree only if every component agrees — or the proof exhibits an explicit
    collision of `H`.  (Domain separators and hashes are fixed-width fields.) -/
theorem digest_binding (C : Crypto) (d d' s s' x x' : Bytes) (hd : d.length = d'.length)
    (hs : s.length = s'.length) (h : digest C d s x = digest C d' s' x') :
    (d = d' ∧ s = s' ∧ x = x') ∨ ∃ a b, a ≠ b ∧ C.H a = C.H b := by
  refine (C.eq_or_collision h).imp_left fun he => ?_
  simp only [List.append_assoc] at he
  obtain ⟨h1, h2⟩ := List.append_inj (List.append_cancel_left he) hd
  obtain ⟨h3, h4⟩ := List.append_inj h2 hs
  exact ⟨h1, h3, h4⟩

theorem dataHash_binding (C : Crypto) (t t' : UInt8) (r r' : Bytes)
    (h : dataHash C t r = dataHash C t' r') :
    (t = t' ∧ r = r') ∨ ∃ a b, a ≠ b ∧ C.H a = C.H b :=
  (C.eq_or_collision h).imp_left List.cons.inj

/-- A signature set that authorises `RotateSigners` over some bytes authorises no approval:
    the two command tags differ, so equal digests would be a collision. -/
theorem command_tags_differ : tagApproveMessages ≠ tagRotateSigners := by decide

/-- `"\x19MultiversX Signed Message:\n"` -/
theorem prefix_constant :
    Generated.signedMessagePrefix =
      [25, 77, 117, 108, 116, 105, 118, 101, 114, 115, 88, 32, 83, 105, 103, 110, 101, 100, 32, 77,
       101, 115, 115, 97, 103, 101, 58, 10] :=
  rfl

theorem command_type_order : Generated.commandTypes = ["ApproveMessages", "RotateSigners"] :=
  rfl

/-! ### Non-vacuity (tests) -/
/-- the hypotheses of `validateSignatures_complete` are satisfiable: a two-signer set in which the
    second signer alone reaches the threshold -/
example :
    let C : Crypto := ⟨fun _ => [], fun k _ s => k == s⟩
    let ss : List WeightedSigner := [⟨[1], 1⟩, ⟨[2], 3⟩]
    allSuppliedValid C [] ss [none, some [2]] = true ∧ suppliedWeight ss [none, some [2]] ≥ 3 ∧
    validWeight C [] ss [some [9], some [2]] = 3 := by decide

end Axelar.Props.C01
