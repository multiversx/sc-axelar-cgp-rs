/-
  C02 — "the approved events always agree with that state": an approval batch announces exactly the entries
  it created, each once, with the contents that were stored.
-/
import Axelar.Props.C02
namespace Axelar.Props.C02
open Axelar Axelar.Gateway Codec

/-- the event `approveMessages` emits for a message it approves -/
def approvalEvent (m : Message) : Ev :=
  ⟨"message_approved_event", [m.sourceChain, m.messageId, m.sourceAddress, m.contractAddress, m.payloadHash], [[]]⟩

def keyOf (m : Message) : Bytes × Bytes := (m.sourceChain, m.messageId)

/-- the entry an approval of `m` stores -/
def approvalOf (C : Crypto) (m : Message) : MsgState :=
  .approved (messageHash C m.sourceChain m.messageId m.sourceAddress m.contractAddress m.payloadHash)

/-- `e` announces an approval of the id `k` -/
def announces (e : Ev) (k : Bytes × Bytes) : Bool := e.topics.take 2 == [k.1, k.2]

abbrev announced (evs : List Ev) (k : Bytes × Bytes) : Nat := (evs.filter (fun e => announces e k)).length

theorem approvalEvent_announces (m : Message) (k : Bytes × Bytes) :
    announces (approvalEvent m) k = decide (keyOf m = k) := by
  obtain ⟨a, b⟩ := k
  simp [announces, approvalEvent, keyOf, Bool.beq_eq_decide_eq]

theorem announced_cons (m : Message) (evs : List Ev) (k : Bytes × Bytes) :
    announced (approvalEvent m :: evs) k = (if keyOf m = k then 1 else 0) + announced evs k := by
  simp only [announced, List.filter_cons, approvalEvent_announces, decide_eq_true_eq]
  split
  · rw [List.length_cons, Nat.add_comm]
  · rw [Nat.zero_add]

theorem approveMessage_cases (C : Crypto) (st : State) (m : Message) :
    (st.messages (keyOf m) = .nonExistent ∧
      approveMessage C st m =
        ({ st with messages := upd st.messages (keyOf m) (approvalOf C m) }, [approvalEvent m])) ∨
    (st.messages (keyOf m) ≠ .nonExistent ∧ approveMessage C st m = (st, [])) := by
  fun_cases approveMessage C st m
  case case1 h _ => exact .inl ⟨h, rfl⟩
  case case2 h => exact .inr ⟨h, rfl⟩

theorem approveAll_cons {C : Crypto} {st : State} {m : Message} {st1 : State} {e1 : List Ev}
    (h : approveMessage C st m = (st1, e1)) (ms : List Message) :
    approveAll C st (m :: ms) [] = ((approveAll C st1 ms []).1, e1 ++ (approveAll C st1 ms []).2) := by
  -- the accumulator only collects: the events of a batch come after those already emitted, and the state does
  -- not depend on them
  have acc : ∀ (ms : List Message) (st : State) (evs : List Ev),
      approveAll C st ms evs = ((approveAll C st ms []).1, evs ++ (approveAll C st ms []).2) := by
    intro ms st evs
    induction ms generalizing st evs with
    | nil => simp [approveAll]
    | cons m ms ih =>
      simp only [approveAll]
      rw [ih _ (evs ++ _), ih _ ([] ++ _), List.nil_append, List.append_assoc]
  simp only [approveAll, h]
  rw [acc, List.nil_append]

theorem approveAll_events (C : Crypto) (ms : List Message) (st : State) :
    (∀ e ∈ (approveAll C st ms []).2, ∃ m ∈ ms, e = approvalEvent m ∧ st.messages (keyOf m) = .nonExistent ∧
        (approveAll C st ms []).1.messages (keyOf m) = approvalOf C m) ∧
    (∀ k, announced (approveAll C st ms []).2 k =
        if (approveAll C st ms []).1.messages k = st.messages k then 0 else 1) := by
  induction ms generalizing st with
  | nil => exact ⟨fun _ he => absurd he List.not_mem_nil, fun k => (if_pos rfl).symm⟩
  | cons m ms ih =>
    rcases approveMessage_cases C st m with ⟨hnew, heq⟩ | ⟨_, heq⟩
    · -- `m` is approved, and the rest of the batch leaves its entry alone; of the new state only what it holds at
      -- each key is used, so it gets a name and its shape is forgotten
      obtain ⟨st1, heq, hkey, hother⟩ : ∃ st1, approveMessage C st m = (st1, [approvalEvent m]) ∧
          st1.messages (keyOf m) = approvalOf C m ∧ ∀ k, k ≠ keyOf m → st1.messages k = st.messages k :=
        ⟨_, heq, by simp only [upd_same], fun k hk => by simp only [upd_other hk]⟩
      rw [approveAll_cons heq ms]
      obtain ⟨ih1, ih2⟩ := ih st1
      have hex : st1.messages (keyOf m) ≠ .nonExistent := by
        rw [hkey]
        nofun
      have hfin := (approveAll_trans C st1 ms [] (keyOf m)).eq_of_ne hex
      refine ⟨fun e he => ?_, fun k => ?_⟩
      · rcases List.mem_cons.mp he with rfl | he
        · exact ⟨m, List.mem_cons_self, rfl, hnew, hfin.trans hkey⟩
        · obtain ⟨m', hm', rfl, hn', ha'⟩ := ih1 e he
          refine ⟨m', List.mem_cons_of_mem _ hm', rfl, ?_, ha'⟩
          by_cases hk : keyOf m' = keyOf m
          · exact absurd (hk ▸ hn') hex
          · rwa [← hother _ hk]
      · rw [List.singleton_append, announced_cons, ih2]
        by_cases hk : keyOf m = k
        · subst hk
          rw [if_pos rfl, if_pos hfin, if_neg fun h => hex ((hfin.symm.trans h).trans hnew)]
        · rw [if_neg hk, hother k (Ne.symm hk), Nat.zero_add]
    · -- `m` is skipped
      rw [approveAll_cons heq ms]
      obtain ⟨ih1, ih2⟩ := ih st
      exact ⟨fun e he => (ih1 e he).imp fun _ h => ⟨List.mem_cons_of_mem _ h.1, h.2⟩, ih2⟩

/-- **The approved events agree with the state.**  For every accepted approval batch: every `message_approved_event`
    announces a message of the batch whose entry did not exist before the call and is, after the call, the approval of
    exactly that message; and every entry the call changed is announced by exactly one event (entries it left alone —
    already approved, already executed, repeated inside the batch — by none). -/
theorem approved_events_agree_with_state (C : Crypto) (st st' : State) (ctx : Ctx) (args rs : List Bytes)
    (evs : List Ev) (h : call C st ctx "approveMessages" args = .ok (st', rs, evs)) :
    (∀ e ∈ evs, ∃ m : Message, e = approvalEvent m ∧ st.messages (keyOf m) = .nonExistent ∧
      st'.messages (keyOf m) =
        .approved (messageHash C m.sourceChain m.messageId m.sourceAddress m.contractAddress m.payloadHash)) ∧
    (∀ k, (st'.messages k ≠ st.messages k → (evs.filter (fun e => announces e k)).length = 1) ∧
          (st'.messages k = st.messages k → (evs.filter (fun e => announces e k)).length = 0)) := by
  obtain ⟨m, p, rfl, ha⟩ := approve_call_inv h
  obtain ⟨_, msgs, _, _, _, _, _, he⟩ := approveMessages_eq_ok.mp ha
  obtain ⟨h1, h2⟩ := approveAll_events C msgs st
  rw [← he] at h1 h2
  exact ⟨fun e he => (h1 e he).imp fun _ h => h.2,
    fun k => ⟨fun hk => (h2 k).trans (if_neg hk), fun hk => (h2 k).trans (if_pos hk)⟩⟩

end Axelar.Props.C02
