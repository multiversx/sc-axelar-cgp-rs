/-
  C12 — over every history of the composed world: a governance command is processed at most once.
-/
import Axelar.Props.C12
import Axelar.Proofs.ItsHistory
namespace Axelar.Props.C12
open Axelar Axelar.Governance Codec

/-- **A processed command can never be replayed — in any later state of any history.**  Once the gateway
    entry of (source chain, message id) is executed (which is what a successful `execute` leaves behind:
    `command_is_authenticated`), then after every sequence of transactions, deliveries, callbacks and
    environment moves of the composed world — by any callers, to any contracts, in any order — `execute` for
    that message fails, whatever the governance state, the caller, the source address or the payload. -/
theorem command_never_replayed (C : Crypto) (w : World) (ops : List World.Op) (chain id : Bytes)
    (hex : w.gw.messages (chain, id) = .executed) (st : State) (ctx : Ctx) (src payload : Bytes) :
    ∃ e, execute C st (World.run C w ops).gw ctx chain id src payload = .error e := by
  apply unapproved_command_rejected
  rw [World.run_executed C ops hex]
  exact nofun

/-- … and the command that has just been processed is such a message: after a successful `execute` in a
    world whose gateway is `gw`, every later attempt in every history that starts from the resulting
    gateway state fails. -/
theorem processed_command_never_replayed (C : Crypto) (w : World) (ops : List World.Op) (st st' : State)
    (gw' : Gateway.State) (ctx : Ctx) (chain id src payload : Bytes) (e1 e2 : List Ev)
    (h : execute C st w.gw ctx chain id src payload = .ok (st', gw', e1, e2))
    (st2 : State) (ctx2 : Ctx) (src2 payload2 : Bytes) :
    ∃ e, execute C st2 (World.run C { w with gw := gw' } ops).gw ctx2 chain id src2 payload2 = .error e :=
  command_never_replayed C { w with gw := gw' } ops chain id
    (command_is_authenticated C st st' w.gw gw' ctx chain id src payload e1 e2 h).2.2.2.1 st2 ctx2 src2 payload2

end Axelar.Props.C12
