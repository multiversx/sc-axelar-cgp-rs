import Axelar.Basic.Bytes
import Axelar.Basic.Keccak
import Axelar.Props.C01
import Axelar.Props.C02
import Axelar.Props.C03
import Axelar.Props.C04
import Axelar.Props.C05
import Axelar.Props.C06
import Axelar.Props.C07
import Axelar.Props.C08
import Axelar.Props.C09
import Axelar.Props.C10
import Axelar.Props.C11
import Axelar.Props.C12
import Axelar.Props.C13
import Axelar.Props.C14
import Axelar.Props.C15
import Axelar.Props.C16
import Axelar.Props.C17
import Axelar.Props.C18
import Axelar.Props.C19
import Axelar.Props.C20
import Axelar.Driver.Judge
import Axelar.Proofs.SurfaceGateway
import Axelar.Proofs.SurfaceGasService
import Axelar.Proofs.SurfaceGovernance
import Axelar.Proofs.SurfaceTokenManager
import Axelar.Proofs.SurfaceIts
import Axelar.Props.C16Hist
import Axelar.Props.C12Hist
import Axelar.Proofs.GovCount
import Axelar.Props.C12Count
import Axelar.Props.C10Hist
import Axelar.Props.C17Ops
import Axelar.Props.C02Events
import Axelar.Props.C08Ops
import Axelar.Props.C04Ops
import Axelar.Props.C13Ops
import Axelar.Props.C18Ops
import Axelar.Props.C17OpsMinter
import Axelar.Props.C19Ops
